import EudoxiaModel.Proofs.Lift
/-! Container accounting (C09): every container created is running, suspending, suspended, or has reported exactly one result. -/
namespace Eudoxia
open OpState

/-- containers this pool has ever held: running + suspending + suspended + those that reported a result -/
def Pool.total (p : Pool) : Nat := p.active.length + p.suspending.length + p.suspended.length + p.tickTimes.length

structure Acct (p : Pool) : Prop where
  total : p.created = p.total
  okLe : p.numCompleted ≤ p.tickTimes.length

def PoolAcct (cfg : Cfg) (p : Pool) (n : Nat) : Prop := PoolGoodMem cfg p n ∧ Acct p

theorem PoolAcct.goodMem {cfg : Cfg} {p : Pool} {n : Nat} (g : PoolAcct cfg p n) : PoolGoodMem cfg p n := g.1
theorem PoolAcct.acct {cfg : Cfg} {p : Pool} {n : Nat} (g : PoolAcct cfg p n) : Acct p := g.2
theorem PoolAcct.activeNodup {cfg : Cfg} {p : Pool} {n : Nat} (g : PoolAcct cfg p n) : (cids p.active).Nodup :=
  g.goodMem.good.inv.activeNodup

theorem filter_split_length {α : Type} (f : α → Bool) (l : List α) :
    (l.filter f).length + (l.filter (fun x => !f x)).length = l.length := by
  induction l with
  | nil => rfl
  | cons x xs ih => cases hx : f x <;> simp [hx] <;> omega

theorem length_of_keys {l l' : List Ctr} (h : l'.map key = l.map key) : l'.length = l.length := by
  simpa using congrArg List.length h

theorem doSuspends_total {cfg : Cfg} {l : List Nat} {w w' : Store} {p p' : Pool} (h : doSuspends cfg w p l = .ok (w', p')) :
    (cids p.active).Nodup → p'.total = p.total := by
  induction h using doSuspends_induct with
  | nil => exact fun _ => rfl
  | cons _ hf _ _ ih =>
    intro hnd
    obtain ⟨_, _, _, hperm⟩ := find_remove hf hnd
    have hlen := hperm.length_eq
    simp only [cids, List.length_cons, List.length_map] at hlen
    rw [ih ((cids_filter_sublist _ _).nodup hnd)]
    simp only [Pool.total, List.length_append, List.length_cons, List.length_nil]
    omega

theorem susPhase_acct {cfg : Cfg} {w w1 : Store} {p p1 : Pool} {l : List Nat} (hnd : (cids p.active).Nodup) (a : Acct p)
    (h : susPhase cfg w p l = .ok (w1, p1)) : Acct p1 := by
  obtain ⟨p0, hd, hp1⟩ := susPhase_ok h
  have ht := doSuspends_total hd hnd
  have hfr := (doSuspends_frame hd).1
  have a0 : Acct p0 := ⟨by rw [ht, hfr]; exact a.total, by rw [hfr]; exact a.okLe⟩
  rcases hp1 with rfl | ⟨_, rfl⟩
  · exact ⟨a0.total, a0.okLe⟩
  · exact a0

theorem acct_of_start_frame {p p' : Pool} (a : Acct p)
    (h : p' = { p with availC := p'.availC, availR := p'.availR, active := p'.active, created := p'.created } ∧
      p'.active.length + p.created = p.active.length + p'.created) : Acct p' := by
  obtain ⟨hfr, hlen⟩ := h
  have h1 := a.total
  have h2 := a.okLe
  rw [hfr]
  constructor
  · simp only [Pool.total] at h1 ⊢; omega
  · exact h2

theorem poolRun_acct {cfg : Cfg} {w w' : Store} {p p' : Pool} {res : List Res} (hnd : (cids p.active).Nodup) (a : Acct p)
    (h : poolRun cfg w p = .ok (w', p', res)) : Acct p' := by
  obtain ⟨_, p3, _, act4, cons4, p5, h3, h4, h5, rfl, _⟩ := poolRun_ok h
  -- phase 3: the suspending containers are split among suspending and suspended
  obtain ⟨l, hl, hp3⟩ := suspTickAll_ok h3
  have e3 : p3.active = p.active ∧ p3.suspending.length + p3.suspended.length = p.suspending.length + p.suspended.length ∧
      p3.tickTimes = p.tickTimes ∧ p3.created = p.created ∧ p3.numCompleted = p.numCompleted := by
    have ll := length_of_keys (keys_of_ident (suspTickList_ident hl))
    have s1 := filter_split_length (fun c : Ctr => c.suspLeft == 0) l
    rw [hp3]
    refine ⟨rfl, ?_, rfl, rfl, rfl⟩
    simp only [List.length_append]; omega
  obtain ⟨a3, b3, t3, c3, n3⟩ := e3
  rw [a3] at h4
  have hk4 := keys_of_ident (tickAll_ident h4)
  obtain ⟨k5, s5, d5, _⟩ := oomKiller_keys (p := { p3 with active := act4, consumed := cons4 }) (cids_keys hk4 ▸ hnd) h5
  have l5 : p5.active.length = p.active.length := (length_of_keys k5).trans (length_of_keys hk4)
  have e5 : p5.tickTimes = p3.tickTimes ∧ p5.created = p3.created ∧ p5.numCompleted = p3.numCompleted := by
    obtain ⟨_, _, _, _, ⟨_, _, hp5⟩ | ⟨_, _, _, _, hp5⟩⟩ := oomKiller_ok h5 <;> rw [hp5] <;> exact ⟨rfl, rfl, rfl⟩
  obtain ⟨t5, c5, n5⟩ := e5
  -- phase 6: each finished container reports one result
  have S := collect_spec p5
  have q3 : (collect p5).1.tickTimes.length = p.tickTimes.length + (p5.active.filter (·.completed)).length := by
    rw [S.tickTimes, List.length_append, List.length_map, t5, t3]
  have s5' : p5.suspending = p3.suspending := s5
  have d5' : p5.suspended = p3.suspended := d5
  have s2 := filter_split_length (fun c : Ctr => c.completed) p5.active
  have hle := List.length_filter_le (fun c : Ctr => !c.err) (p5.active.filter (·.completed))
  have h1 := a.total
  have h2 := a.okLe
  simp only [Pool.total] at h1
  constructor
  · rw [Pool.total, S.created, S.active, S.suspending, S.suspended, q3, s5', d5', c5, c3]; omega
  · rw [S.numCompleted, q3, n5, n3]; omega

theorem acct_phases : PhaseInvariant PoolAcct where
  mono g h := ⟨goodMem_phases.mono g.goodMem h, g.acct⟩
  sus g h := ⟨goodMem_phases.sus g.goodMem h, susPhase_acct g.activeNodup g.acct h⟩
  start g hg h := ⟨goodMem_phases.start g.goodMem hg h, acct_of_start_frame g.acct (startAll_frame h)⟩
  startErr g hg h := ⟨goodMem_phases.startErr g.goodMem hg h, acct_of_start_frame g.acct (startAll_err_frame h)⟩
  run g h := ⟨goodMem_phases.run g.goodMem h, poolRun_acct g.activeNodup g.acct h⟩

end Eudoxia
