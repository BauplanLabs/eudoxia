import EudoxiaModel.Proofs.PoolInv
/-! Memory accounting of a pool tick (C04): after the tick every running container is within its allocation,
    the reported usage is the sum over the running containers and does not exceed the capacity. -/
namespace Eudoxia
open OpState

structure TickRel (c c' : Ctr) (cons cons' : Int) : Prop where
  key : key c' = key c
  cons : cons' = cons + ((c'.mem : Int) - (c.mem : Int))
  doneZero : c'.completed = true → c.completed = false → c'.mem = 0
  doneMono : c.completed = true → c'.completed = true
  within : c'.frozen = false → c'.mem ≤ c'.ram
  err : c'.err = c.err

theorem tick_rel {cfg : Cfg} {w w' : Store} {c c' : Ctr} {cons cons' : Int} (hf : c.frozen = false) (hc : c.completed = false)
    (h : c.tick cfg w cons = .ok (w', c', cons')) : TickRel c c' cons cons' ∧ (c'.frozen = true → c'.mem > c'.ram) := by
  have hk := (tick_ident h).key
  obtain ⟨w1, c1, c2, hs, hr, rfl⟩ := tick_running hc hf h
  obtain ⟨r, last, m, hr⟩ := runTick_runAt hr
  -- `seek` has moved the position only, so `c1` has the memory, allocation and flags of `c`
  obtain ⟨p1, rfl⟩ : ∃ p, c1 = { c with pos := p } := ⟨_, seek_sameButPos hs⟩
  have hcons := runAt_cons hr
  by_cases hm : m ≤ c.ram
  · have q := runAt_fits hr hm
    have hfz : c2.frozen = false := q.frozen.trans hf
    refine ⟨⟨hk, hcons, fun h1 _ => ?_, fun h1 => absurd (hc.symm.trans h1) Bool.false_ne_true, fun _ => ?_, q.err⟩, fun h1 => absurd (hfz.symm.trans h1) Bool.false_ne_true⟩
    · -- newly complete: this was the last tick of the last operator
      rcases q.completed.mp h1 with h0 | hlast
      · exact absurd (hc.symm.trans h0) Bool.false_ne_true
      · exact q.mem.trans (if_pos hlast)
    · show c2.mem ≤ c2.ram
      rw [q.mem, q.ram]
      split
      · exact Nat.zero_le _
      · exact hm
  · rw [runAt_excess hr (Nat.lt_of_not_le hm)] at hcons hk ⊢
    exact ⟨⟨hk, hcons, fun h1 _ => absurd (hc.symm.trans h1) Bool.false_ne_true, fun h1 => absurd (hc.symm.trans h1) Bool.false_ne_true, fun h1 => absurd h1 (Bool.noConfusion), rfl⟩,
      fun _ => Nat.lt_of_not_le hm⟩

def CtrOK (c : Ctr) : Prop := c.completed = false ∧ c.frozen = false ∧ c.mem ≤ c.ram

theorem CtrOK.unfinished {c : Ctr} (h : CtrOK c) : c.completed = false := h.1
theorem CtrOK.unfrozen {c : Ctr} (h : CtrOK c) : c.frozen = false := h.2.1
theorem CtrOK.within {c : Ctr} (h : CtrOK c) : c.mem ≤ c.ram := h.2.2

def CtrTicked (c : Ctr) : Prop :=
  (c.completed = true → c.mem = 0) ∧ (c.frozen = true → c.completed = false → c.mem > c.ram) ∧ (c.frozen = false → c.mem ≤ c.ram)

theorem tickAll_mem {cfg : Cfg} {l l' : List Ctr} {w w' : Store} {cons cons' : Int}
    (hok : ∀ c ∈ l, CtrOK c) (h : tickAll cfg w l cons = .ok (w', l', cons')) :
    cons' = cons + (memSum l' - memSum l) ∧ (∀ c ∈ l', CtrTicked c) := by
  induction h using tickAll_induct with
  | nil => simp
  | step _ ht _ ih =>
    obtain ⟨hc0, hf0, _⟩ := hok _ List.mem_cons_self
    obtain ⟨r, hfz⟩ := tick_rel hf0 hc0 ht
    obtain ⟨i1, i2⟩ := ih (fun x hx => hok x (List.mem_cons_of_mem _ hx))
    refine ⟨by simp only [memSum_cons]; rw [i1, r.cons]; omega, fun x hx => ?_⟩
    rcases List.mem_cons.mp hx with rfl | hx'
    · exact ⟨fun h1 => r.doneZero h1 hc0, fun h1 _ => hfz h1, r.within⟩
    · exact i2 x hx'

def CtrSafe (c : Ctr) : Prop := c.mem ≤ c.ram ∧ (c.completed = true → c.mem = 0) ∧ (c.completed = false → c.frozen = false)

theorem killedCtr_safe (c : Ctr) : CtrSafe (killedCtr c) := ⟨Nat.zero_le _, fun _ => rfl, fun h => by simp [killedCtr] at h⟩

theorem killIndividual_mem {l l' : List Ctr} {w w' : Store} {cons cons' : Int}
    (h : killIndividual w l cons = .ok (w', l', cons')) (hok : ∀ c ∈ l, CtrTicked c) :
    cons' = cons + (memSum l' - memSum l) ∧ (∀ c ∈ l', CtrSafe c) ∧
    l' = l.map (fun c => if c.mem > c.ram then killedCtr c else c) := by
  induction h using killIndividual_induct with
  | nil => simp
  | kill _ hgt hk _ ih =>
    obtain ⟨_, rfl, rfl⟩ := kill_ok hk
    obtain ⟨i1, i2, i3⟩ := ih (fun x hx => hok x (List.mem_cons_of_mem _ hx))
    refine ⟨?_, List.forall_mem_cons.mpr ⟨killedCtr_safe _, i2⟩, by simp only [List.map_cons, hgt, ↓reduceIte, i3]⟩
    simp only [memSum_cons, killedCtr]; omega
  | @skip _ c _ _ _ _ _ _ hle _ ih =>
    obtain ⟨i1, i2, i3⟩ := ih (fun x hx => hok x (List.mem_cons_of_mem _ hx))
    obtain ⟨hz, hfr, _⟩ := hok c List.mem_cons_self
    refine ⟨?_, List.forall_mem_cons.mpr ⟨⟨hle, hz, fun hnc => ?_⟩, i2⟩, by simp only [List.map_cons, Nat.not_lt.mpr hle, i3]; rfl⟩
    · simp only [memSum_cons]; omega
    · -- a frozen unfinished container would be over its allocation
      apply Bool.eq_false_iff.mpr
      intro hfz
      have := hfr hfz hnc; omega

theorem memSum_zero (l : List Ctr) (h : ∀ c ∈ l, c.mem = 0) : memSum l = 0 := by
  induction l with
  | nil => rfl
  | cons c l ih => simp [h c (by simp), ih (fun x hx => h x (by simp [hx]))]

theorem memSum_le_ramSum (l : List Ctr) (h : ∀ c ∈ l, c.mem ≤ c.ram) : memSum l ≤ ramSum l := by
  induction l with
  | nil => simp
  | cons c l ih =>
    simp only [memSum_cons, ramSum_cons]
    have := h c (by simp)
    have := ih (fun x hx => h x (by simp [hx]))
    omega

/-- Last conjunct (C04.4a, in the shape of `C04.kills_are_justified`): step 1 kills exactly the containers over their
own limit; step 2 runs only if the usage left exceeds the capacity. -/
theorem oomKiller_mem {w w' : Store} {p p' : Pool} (hnd : (cids p.active).Nodup) (hT : ∀ c ∈ p.active, CtrTicked c)
    (hs : p.consumed = memSum p.active) (h : oomKiller w p = .ok (w', p')) :
    p'.consumed = memSum p'.active ∧ (∀ c ∈ p'.active, CtrSafe c) ∧
    memSum (p'.active.filter (fun c => !c.completed)) ≤ p.capR ∧
    (∃ act1, act1 = p.active.map (fun c => if c.mem > c.ram then killedCtr c else c) ∧ (memSum act1 ≤ p.capR → p'.active = act1)) := by
  obtain ⟨w1, act1, cons1, hk, hcase⟩ := oomKiller_ok h
  obtain ⟨k1, k2, k3⟩ := killIndividual_mem hk hT
  have hc1 : cons1 = memSum act1 := by rw [k1, hs]; omega
  have hnd1 : (cids act1).Nodup := by rw [cids_of_ident (killIndividual_ident hk)]; exact hnd
  rcases hcase with ⟨hle, _, rfl⟩ | ⟨hgt, act2, cons2, hv, rfl⟩
  · refine ⟨hc1, k2, ?_, act1, k3, fun _ => rfl⟩
    have := memSum_filter_le act1 (fun c => !c.completed)
    simp only; omega
  · have hperm := SortP.sortDesc_perm scoreGe (oomCandidates act1)
    have hvnd : (cids (sortDesc (oomCandidates act1))).Nodup :=
      (List.Perm.map _ hperm).nodup_iff.mpr ((cids_filter_sublist act1 _).nodup hnd1)
    obtain ⟨hact, hsum⟩ := killVictims_act hv hnd1 hvnd (fun v hv' => (List.mem_filter.mp (mem_sortDesc hv')).1)
    have husage := killVictims_usage hv
    refine ⟨by simp only; omega, ?_, ?_, act1, k3, fun hle => absurd (hc1 ▸ hle) hgt⟩
    · intro c hc
      simp only at hc
      rw [hact] at hc
      obtain ⟨x, hx, rfl⟩ := List.mem_map.mp hc
      split
      · exact killedCtr_safe x
      · exact k2 x hx
    · simp only
      rcases stops_once_usage_fits p.capR (sortDesc (oomCandidates act1)) cons1 with hall | hfit
      · -- every candidate was killed: whoever goes on running uses no memory
        have hz : memSum (act2.filter (fun c => !c.completed)) = 0 := by
          apply memSum_zero
          intro c hc
          obtain ⟨hc2, hnc⟩ := List.mem_filter.mp hc
          rw [hact, hall, List.take_length] at hc2
          obtain ⟨x, hx, rfl⟩ := List.mem_map.mp hc2
          split at hnc
          · simp [killedCtr] at hnc
          · -- not killed, so not a candidate; not finished, so it holds no memory
            rename_i hcond
            simp only [hcond]
            have hxc : x ∉ oomCandidates act1 := fun hmem =>
              hcond (List.contains_iff_mem.mpr (List.mem_map.mpr ⟨x, hperm.symm.subset hmem, rfl⟩))
            have : ¬ ((!x.completed && decide (x.mem > 0)) = true) := fun hp => hxc (List.mem_filter.mpr ⟨hx, hp⟩)
            simpa [show x.completed = false by simpa using hnc] using this
        rw [hz]; exact Int.natCast_nonneg _
      · have := memSum_filter_le act2 (fun c => !c.completed)
        omega

/-- the C04 invariant of a pool at a tick boundary -/
structure MemOK (p : Pool) : Prop where
  sum : p.consumed = memSum p.active
  ok : ∀ c ∈ p.active, CtrOK c
  cap : p.consumed ≤ p.capR

theorem memOK_fresh (cpus ram : Nat) : MemOK (Pool.fresh cpus ram) := by
  constructor <;> simp [Pool.fresh]

theorem startOne_mem {p : Pool} (m : MemOK p) (w : Store) (n : Nat) (a : Asg) :
    MemOK { p with availC := p.availC - a.cpu, availR := p.availR - a.ram, active := p.active ++ [mkCtr w n a], created := p.created + 1 } := by
  constructor
  · have := m.sum
    simp only [memSum, List.map_append, List.sum_append] at this ⊢
    simp [mkCtr, this]
  · intro c hc
    rcases List.mem_append.mp hc with h1 | h1
    · exact m.ok c h1
    · rw [List.mem_singleton.mp h1]; exact ⟨rfl, rfl, Nat.zero_le _⟩
  · exact m.cap

theorem startAll_mem {cfg : Cfg} {w : Store} {as : List Asg} {p p' : Pool} {n n' : Nat}
    (m : MemOK p) (h : startAll cfg w p n as = .ok (p', n')) : MemOK p' := by
  induction h using startAll_induct with
  | nil => exact m
  | cons _ _ _ ih => exact ih (startOne_mem m _ _ _)

theorem startAll_err_mem {cfg : Cfg} {w : Store} {as : List Asg} {p p' : Pool} {n n' : Nat} {e : Err}
    (m : MemOK p) (h : startAll cfg w p n as = .error (e, p', n')) : MemOK p' := by
  induction h using startAll_err_induct with
  | here => exact m
  | later _ _ _ ih => exact ih (startOne_mem m _ _ _)

/-- `collect` re-sums the usage only if somebody has finished -/
theorem collect_consumed {p : Pool} (h : p.consumed = memSum p.active) :
    (collect p).1.consumed = memSum (p.active.filter (fun c => !c.completed)) := by
  simp only [collect]
  split
  · rename_i hd
    have hall : p.active.filter (fun c => !c.completed) = p.active :=
      List.filter_eq_self.mpr fun c hc => by simpa using List.filter_eq_nil_iff.mp (List.isEmpty_iff.mp hd) c hc
    simp only [hall]; exact h
  · simp [Pool.reconcile]

theorem poolRun_mem {cfg : Cfg} {w w' : Store} {p p' : Pool} {n : Nat} {res : List Res} (inv : PoolInv p n) (m : MemOK p)
    (h : poolRun cfg w p = .ok (w', p', res)) : MemOK p' := by
  obtain ⟨w3, p3, w4, act4, cons4, p5, h3, h4, h5, rfl, _⟩ := poolRun_ok h
  obtain ⟨_, _, hp3⟩ := suspTickAll_ok h3
  have e3 : p3.active = p.active ∧ p3.consumed = p.consumed := by rw [hp3]; exact ⟨rfl, rfl⟩
  rw [e3.1, e3.2] at h4
  obtain ⟨t1, t2⟩ := tickAll_mem m.ok h4
  have hnd4 : (cids act4).Nodup := by rw [cids_of_ident (tickAll_ident h4)]; exact inv.activeNodup
  have hs4 : cons4 = memSum act4 := by rw [t1, m.sum]; omega
  obtain ⟨o1, o2, o3, _⟩ := oomKiller_mem (p := { p3 with active := act4, consumed := cons4 }) hnd4 t2 hs4 h5
  obtain ⟨_, _, _, _, _, _, hcap5⟩ := oomKiller_keys (p := { p3 with active := act4, consumed := cons4 }) hnd4 h5
  have hact := (collect_spec p5).active
  have hcons := collect_consumed o1
  constructor
  · rw [hcons, hact]
  · intro c hc
    rw [hact] at hc
    obtain ⟨hc5, hnc⟩ := List.mem_filter.mp hc
    have hncomp : c.completed = false := by simpa using hnc
    obtain ⟨s1, _, s3⟩ := o2 c hc5
    exact ⟨hncomp, s3 hncomp, s1⟩
  · rw [hcons, (collect_spec p5).capR, hcap5]; exact o3

end Eudoxia
