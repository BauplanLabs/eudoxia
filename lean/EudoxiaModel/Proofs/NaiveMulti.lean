import EudoxiaModel.Proofs.NaiveLoop
import EudoxiaModel.Proofs.Counts
import EudoxiaModel.Proofs.CtrKept
/-! The naive scheduler with multi-operator containers in closed loop with the executor never raises.  An executor tick without suspension requests
    in a world without write-outs moves operators only to RUNNING, COMPLETED or FAILED (`TickTarget`), which is what keeps `World.Quiet`. -/
namespace Eudoxia
open OpState Extracted

def TickTarget (_ : Nat) (t : OpState) : Prop := t = running ∨ t = completed ∨ t = failed

theorem tickTargets_cases {a b : Store} (h : StepsP TickTarget a b) (o : Nat) :
    b.stOf o = a.stOf o ∨ (Busy (a.stOf o) ∧ TickTarget o (b.stOf o)) := by
  induction h with
  | refl => exact .inl rfl
  | @step w w1 w2 r t ht htr _ ih =>
    by_cases e : r = o
    · subst e
      obtain ⟨hv, _, _, hb⟩ := transition_ok htr
      have hbusy : Busy (w.stOf r) := by
        -- the states that are not busy can only be left for ASSIGNED
        have hna : t ≠ assigned := by rcases ht with rfl | rfl | rfl <;> nofun
        revert hv
        cases w.stOf r <;> simp [validNext, Busy, hna]
      refine .inr ⟨hbusy, ?_⟩
      rcases ih with h1 | ⟨_, h2⟩
      · rw [h1, transition_self htr hb]; exact ht
      · exact h2
    · rw [← transition_other htr e]; exact ih

theorem tickTargets_back {a b : Store} (h : StepsP TickTarget a b) (o : Nat) :
    (Busy (b.stOf o) → Busy (a.stOf o)) ∧ (b.stOf o = pending → a.stOf o = pending) := by
  rcases tickTargets_cases h o with e | ⟨hb, ht⟩
  · rw [e]; exact ⟨id, id⟩
  · exact ⟨fun _ => hb, fun hp => by rcases ht with x | x | x <;> rw [x] at hp <;> cases hp⟩

theorem seek_targets {cfg : Cfg} {w w' : Store} {c c' : Ctr} (h : seek w cfg c = .ok (w', c')) : StepsP TickTarget w w' := by
  fun_induction seek w cfg c
  case case1 => cases h
  case case2 => cases h
  case case3 ih => rename_i hw; exact (StepsP.single (.inl rfl) hw).trans (ih h)
  case case4 ih => exact ih h
  case case5 => cases h; exact .refl _
  case case6 ih => exact ih h

theorem tick_targets {cfg : Cfg} {w w' : Store} {c c' : Ctr} {cons cons' : Int} (h : c.tick cfg w cons = .ok (w', c', cons')) :
    StepsP TickTarget w w' := by
  rcases tick_ok h with ⟨_, rfl, _⟩ | ⟨_, _, ha, _⟩
  · exact .refl _
  · rcases advance_ok ha with ⟨_, rfl, _⟩ | ⟨_, _, _, hs, hr⟩
    · exact .refl _
    · obtain ⟨_, _, _, hr⟩ := runTick_runAt hr
      refine (seek_targets hs).trans ?_
      rcases runAt_ok hr with ⟨_, rfl, _⟩ | ⟨_, _, hw, _⟩ | ⟨_, _, hw, _⟩ | ⟨_, _, rfl, _⟩
      · exact .refl _
      · exact .single (.inr (.inl rfl)) hw
      · exact .single (.inr (.inl rfl)) hw
      · exact .refl _

theorem kill_targets {w w' : Store} {c c' : Ctr} {cons cons' : Int} (h : c.kill w cons = .ok (w', c', cons')) : StepsP TickTarget w w' :=
  (transAll_stepsP failed _ _ _ (kill_ok h).1).mono (fun _ _ hx => .inr (.inr hx.2))

theorem tickAll_targets {cfg : Cfg} {l l' : List Ctr} {w w' : Store} {cons cons' : Int} (h : tickAll cfg w l cons = .ok (w', l', cons')) :
    StepsP TickTarget w w' := by
  induction h using tickAll_induct with
  | nil => exact .refl _
  | step _ ht _ ih => exact (tick_targets ht).trans ih

theorem killIndividual_targets {l l' : List Ctr} {w w' : Store} {cons cons' : Int}
    (h : killIndividual w l cons = .ok (w', l', cons')) : StepsP TickTarget w w' := by
  induction h using killIndividual_induct with
  | nil => exact .refl _
  | kill _ _ hk _ ih => exact (kill_targets hk).trans ih
  | skip _ _ _ ih => exact ih

theorem killVictims_targets {capR : Nat} {vs act act' : List Ctr} {w w' : Store} {cons cons' : Int}
    (h : killVictims w capR act cons vs = .ok (w', act', cons')) : StepsP TickTarget w w' := by
  induction h using killVictims_induct with
  | stop => exact .refl _
  | kill _ _ hk _ ih => exact (kill_targets hk).trans ih

theorem oomKiller_targets {w w' : Store} {p p' : Pool} (h : oomKiller w p = .ok (w', p')) : StepsP TickTarget w w' := by
  obtain ⟨_, _, _, hk, ⟨_, rfl, rfl⟩ | ⟨_, _, _, hv, rfl⟩⟩ := oomKiller_ok h
  · exact killIndividual_targets hk
  · exact (killIndividual_targets hk).trans (killVictims_targets hv)

theorem poolTick_targets {cfg : Cfg} {w w' : Store} {p p' : Pool} {n n' : Nat} {asgs : List Asg} {res : List Res}
    (hs : p.suspending = []) (h : poolTick cfg w p n { susp := [], asgs := asgs } = .ok (w', p', n', res)) : StepsP TickTarget w w' := by
  obtain ⟨w1, p1, p2, _, hsp, _, hst, hr⟩ := poolTick_ok h
  cases hsp
  obtain ⟨w3, p3, w4, act4, cons4, p5, h3, h4, h5, rfl, _⟩ := poolRun_ok hr
  obtain ⟨l, hl, rfl⟩ := suspTickAll_ok h3
  rw [(startAll_lists hst).1, hs] at hl
  cases hl
  exact (tickAll_targets h4).trans (oomKiller_targets h5)

/-- no write-out is in progress anywhere (the naive scheduler never suspends) -/
def World.NoSusp (w : World) : Prop := ∀ p ∈ w.pools, p.suspending = []

theorem execTick_nosusp {w1 w2 : World} {asgs : List Asg} {res : List Res} (hns : w1.NoSusp) (hex : w1.execTick [] asgs = .ok (w2, res)) :
    w2.NoSusp := by
  obtain ⟨_, _, _, _, _, hexp, rfl⟩ := execTick_ok hex
  exact execPools_nosusp hexp rfl (fun p hp => hns p (by simpa using hp))

theorem execPools_targets {cfg : Cfg} {asgs : List Asg} {s : Store} {n : Nat} {done todo : List Pool} {res : List Res}
    {s' : Store} {ps : List Pool} {n' : Nat} {res' : List Res} (h : execPools cfg [] asgs s n done todo res = .ok (s', ps, n', res'))
    (hs : ∀ p ∈ todo, p.suspending = []) : StepsP TickTarget s s' := by
  induction h using execPools_induct with
  | nil => exact .refl _
  | step _ hp _ ih => exact (poolTick_targets (hs _ List.mem_cons_self) hp).trans (ih fun q hq => hs q (List.mem_cons_of_mem _ hq))

theorem execTick_targets {w1 w2 : World} {asgs : List Asg} {res : List Res} (hns : w1.NoSusp)
    (hex : w1.execTick [] asgs = .ok (w2, res)) : StepsP TickTarget w1.store w2.store := by
  obtain ⟨_, _, _, _, _, hexp, rfl⟩ := execTick_ok hex
  exact execPools_targets hexp hns

theorem execTick_of_round {w w1 : World} {asgs : List Asg} (hr : WorldReady w) (hns : w.NoSusp) (A : Naive.Admissible w w1 asgs) :
    ∃ w2 res, w1.execTick [] asgs = .ok (w2, res) ∧ WorldReady w2 ∧ w2.NoSusp ∧ w2.pipes = w.pipes ∧ w2.cfg = w.cfg ∧
      Steps w.store w2.store ∧ Steps w1.store w2.store := by
  obtain ⟨w2, res, hex, r2, p2, c2, st02, st2⟩ := Naive.execTick_gates hr A
  exact ⟨w2, res, hex, r2, execTick_nosusp (fun p hp => hns p (A.built.pools ▸ hp)) hex, p2, c2, st02, st2⟩

def World.PidOK (w : World) : Prop := ∀ pid, ∀ r ∈ (w.pipes.getD pid default).order, w.store.pidOf r = pid

def World.Topo (w : World) : Prop :=
  ∀ pid pre r post, (w.pipes.getD pid default).order = pre ++ r :: post → ∀ q ∈ w.store.parentsOf r, q ∈ pre

/-- holds because a multi-operator container takes every waiting operator of its pipeline at once and nothing is ever suspended -/
def World.Quiet (w : World) : Prop :=
  ∀ pid, (∃ o ∈ (w.pipes.getD pid default).order, Busy (w.store.stOf o)) → ∀ o ∈ (w.pipes.getD pid default).order, w.store.stOf o ≠ pending

structure NaiveInv (w : World) : Prop where
  wfp : w.WFP
  segs : w.SegsOK
  pid : w.PidOK
  topo : w.Topo
  quiet : w.Quiet
  cnt : CountsInv w.store

theorem World.PidOK.steps {w w' : World} (h : w.PidOK) (hp : w'.pipes = w.pipes) (hs : Steps w.store w'.store) : w'.PidOK := by
  intro pid r hr
  rw [hp] at hr
  rw [hs.pidOf]
  exact h pid r hr

theorem World.Topo.steps {w w' : World} (h : w.Topo) (hp : w'.pipes = w.pipes) (hs : Steps w.store w'.store) : w'.Topo := by
  intro pid pre r post ho q hq
  rw [hp] at ho
  rw [hs.parentsOf] at hq
  exact h pid pre r post ho q hq

theorem NaiveInv.steps {w w' : World} (inv : NaiveInv w) (hp : w'.pipes = w.pipes) (hs : Steps w.store w'.store) (hq : w'.Quiet) : NaiveInv w' :=
  ⟨inv.wfp.steps hp hs, inv.segs.steps hp hs, inv.pid.steps hp hs, inv.topo.steps hp hs, hq, countsInv_steps hs inv.cnt⟩

theorem World.Topo.parentsOK_filter {w : World} (ht : w.Topo) (pid : Nat) (P : Nat → Bool)
    (h : ∀ o ∈ (w.pipes.getD pid default).order, P o = true → ∀ q ∈ (w.pipes.getD pid default).order, w.store.stOf q = completed ∨ P q = true) :
    ParentsOK w.store ((w.pipes.getD pid default).order.filter P) := by
  intro pre' o post' hU q hq
  -- the listing splits where the selection does: it is `(l₁ ++ m₁) ++ o :: m₂` with `pre' = l₁.filter P` and nothing of `m₁` selected
  obtain ⟨l₁, l₂, hord, rfl, h2⟩ := List.filter_eq_append_iff.mp hU
  obtain ⟨m₁, m₂, rfl, hm₁, hPo, _⟩ := List.filter_eq_cons_iff.mp h2
  rw [← List.append_assoc] at hord
  have hq' : q ∈ l₁ ++ m₁ := ht pid _ o m₂ hord q hq
  rcases h o (hord ▸ List.mem_append_right _ List.mem_cons_self) hPo q (hord ▸ List.mem_append_left _ hq') with hc | hP
  · exact .inl hc
  · exact .inr (List.mem_filter.mpr ⟨(List.mem_append.mp hq').resolve_right fun hm => hm₁ q hm hP, hP⟩)

theorem no_failed_of_count {w : World} (inv : NaiveInv w) (pid : Nat) (h : w.hasFailures pid = false) :
    ∀ r ∈ (w.pipes.getD pid default).order, w.store.stOf r ≠ failed := by
  intro r hr hf
  unfold World.hasFailures at h
  have hc : w.store.count pid failed = 0 := by simpa using h
  rw [inv.cnt.ok] at hc
  unfold Store.hist at hc
  have := List.countP_eq_zero.mp hc r (List.mem_range.mpr ((inv.wfp pid).2 r hr))
  simp [inv.pid pid r hr, hf] at this

/-- **everything the naive scheduler puts into one multi-operator container is in dependency order** -/
theorem multi_ops_parentsOK {w : World} (inv : NaiveInv w) (pid : Nat) (hnf : w.hasFailures pid = false) :
    ParentsOK w.store (w.getOps pid assignable false) := by
  refine inv.topo.parentsOK_filter pid _ (fun o ho hPo q hq => ?_)
  have hopend : w.store.stOf o = pending := by
    have hoa := (mem_getOps.mp (List.mem_filter.mpr ⟨ho, hPo⟩ : o ∈ w.getOps pid assignable false)).2.1
    simp only [assignable, List.mem_cons, List.not_mem_nil, or_false] at hoa
    exact hoa.resolve_right (no_failed_of_count inv pid hnf o ho)
  have hbusy : ¬ Busy (w.store.stOf q) := fun hb => inv.quiet pid ⟨q, hq, hb⟩ o ho hopend
  cases hst : w.store.stOf q with
  | completed => exact .inl rfl
  | pending => exact .inr (by simp [assignable])
  | failed => exact absurd hst (no_failed_of_count inv pid hnf q hq)
  | assigned => exact absurd (hst ▸ .inl rfl) hbusy
  | running => exact absurd (hst ▸ .inr (.inl rfl)) hbusy
  | suspending => exact absurd (hst ▸ .inr (.inr rfl)) hbusy

theorem naiveInv_assign {w w' : World} {a : Asg} (inv : NaiveInv w) (pid : Nat)
    (h : w.mkAssignment a = .ok w') (ha : a.ops = w.getOps pid assignable false) : NaiveInv w' := by
  obtain ⟨_, _, _, _, m5, m6⟩ := mkAssignment_spec h
  have hp := mkAssignment_pipes h
  refine inv.steps hp (mkAssignment_steps_ok h) ?_
  intro pid' ⟨o, ho, hb⟩ o' ho' hpend
  rw [hp] at ho ho'
  by_cases hpe : pid' = pid
  · subst hpe
    -- a waiting operator of the pipeline itself would have been taken
    have hn : o' ∉ a.ops := fun hx => by rw [(m5 o' hx).2] at hpend; cases hpend
    rw [m6 o' hn] at hpend
    exact hn (ha ▸ mem_getOps.mpr ⟨ho', by simp [hpend, assignable], by simp⟩)
  · have hdis : ∀ r ∈ (w.pipes.getD pid' default).order, r ∉ a.ops := fun r hr hx =>
      hpe ((inv.pid pid' r hr).symm.trans (inv.pid pid r (mem_getOps.mp (ha ▸ hx)).1))
    rw [m6 o (hdis o ho)] at hb
    rw [m6 o' (hdis o' ho')] at hpend
    exact inv.quiet pid' ⟨o, ho, hb⟩ o' ho' hpend

namespace Naive

theorem naive_multi_tick_never_raises (w : World) (st : St) (results : List Res) (newP : List Nat)
    (hr : WorldReady w) (inv : NaiveInv w) (hns : w.NoSusp) (hm : w.cfg.multiOp = true) :
    ∃ w1 st1 dec w2 res, round true w st results newP = .ok (w1, st1, dec) ∧ w1.execTick dec.sus dec.asgs = .ok (w2, res) ∧
      WorldReady w2 ∧ NaiveInv w2 ∧ w2.NoSusp ∧ w2.cfg.multiOp = true := by
  obtain ⟨w1, st1, asgs, hrd, inv1, A⟩ := round_of_inv (multi := true) (I := NaiveInv)
    (fun h _ hm => naiveInv_assign h _ hm rfl)
    (fun {wi pid} h hns => ⟨multi_ops_parentsOK h pid (C17.not_skipped_failures hns), fun r hr => h.segs pid r (mem_opsFor hr).1⟩)
    st results newP inv.wfp inv hm
  obtain ⟨w2, res, hex, r2, ns2, p2, c2, _, st2⟩ := execTick_of_round hr hns A
  have tt := execTick_targets (fun p hp => hns p (A.built.pools ▸ hp)) hex
  have p21 : w2.pipes = w1.pipes := p2.trans A.built.pipes.symm
  have hq2 : w2.Quiet := by
    intro pid ⟨o, ho, hb2⟩ o' ho' hp2
    rw [p21] at ho ho'
    exact inv1.quiet pid ⟨o, ho, (tickTargets_back tt o).1 hb2⟩ o' ho' ((tickTargets_back tt o').2 hp2)
  exact ⟨w1, st1, _, w2, res, hrd, hex, r2, inv1.steps p21 st2 hq2, ns2, by rw [c2]; exact hm⟩

/-- `loop` with the container mode as a parameter (`M` for mode); `loopM false` and `loop` compute the same -/
def loopM (multi : Bool) : World → St → List Res → List (List Nat) → Except Err (World × St × List Res)
  | w, st, res, [] => .ok (w, st, res)
  | w, st, res, newP :: rest =>
    match round multi w st res newP with
    | .error e => .error e.1
    | .ok (w1, st1, dec) =>
      match w1.execTick dec.sus dec.asgs with
      | .error e => .error e.1
      | .ok (w2, res2) => loopM multi w2 st1 res2 rest

/-- **the naive scheduler with multi-operator containers (the default configuration) drives any run to its last tick without raising**:
from a ready world without write-outs whose pipelines are well-formed DAGs listed in topological order, for every sequence of arrival batches -/
theorem run_multi_never_raises : ∀ (arrivals : List (List Nat)) (w : World) (st : St) (res : List Res),
    WorldReady w → NaiveInv w → w.NoSusp → w.cfg.multiOp = true → ∃ out, loopM true w st res arrivals = .ok out := by
  intro arrivals
  induction arrivals with
  | nil => intro w st res _ _ _ _; exact ⟨_, rfl⟩
  | cons newP rest ih =>
    intro w st res hr inv hns hm
    obtain ⟨w1, st1, dec, w2, res2, h1, h2, r2, inv2, ns2, hm2⟩ := naive_multi_tick_never_raises w st res newP hr inv hns hm
    obtain ⟨out, ho⟩ := ih w2 st1 res2 r2 inv2 ns2 hm2
    exact ⟨out, by unfold loopM; rw [h1]; simp only; rw [h2]; exact ho⟩

end Naive
end Eudoxia
