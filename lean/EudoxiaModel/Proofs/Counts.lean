import EudoxiaModel.Proofs.Store
/-! `state_counts` is the histogram of `operator_states` (C02; makes `is_pipeline_successful` mean
    "every operator completed"). -/
namespace Eudoxia
open Extracted OpState

def Store.hist (s : Store) (pid : Nat) (x : OpState) : Nat :=
  (List.range s.st.size).countP (fun k => s.pidOf k == pid && s.stOf k == x)

structure CountsInv (s : Store) : Prop where
  size : ∀ r, r < s.st.size → (s.pidOf r + 1) * 6 ≤ s.cnt.size
  ok : ∀ pid x, s.count pid x = s.hist pid x

theorem idx_lt (x : OpState) : x.idx < 6 := by cases x <;> decide
theorem idx_inj {x y : OpState} (h : x.idx = y.idx) : x = y := by
  cases x <;> cases y <;> first | rfl | (simp [OpState.idx] at h)

theorem countP_update (p p' : Nat → Bool) (r : Nat) : ∀ (l : List Nat), l.Nodup → r ∈ l →
    (∀ k ∈ l, k ≠ r → p' k = p k) →
    l.countP p' + (if p r then 1 else 0) = l.countP p + (if p' r then 1 else 0) := by
  intro l
  induction l with
  | nil => intro _ h; cases h
  | cons a l ih =>
    intro hnd hr hag
    rw [List.nodup_cons] at hnd
    rw [List.countP_cons, List.countP_cons]
    rcases List.mem_cons.mp hr with rfl | hrl
    · have : l.countP p' = l.countP p := by
        apply List.countP_congr
        intro k hk
        rw [hag k (List.mem_cons_of_mem _ hk) (fun e => hnd.1 (e ▸ hk))]
      rw [this]; omega
    · have har : a ≠ r := fun e => hnd.1 (e ▸ hrl)
      have := ih hnd.2 hrl (fun k hk hne => hag k (List.mem_cons_of_mem _ hk) hne)
      rw [hag a List.mem_cons_self har]
      omega

/-- cell `pid * 6 + x.idx` belongs to pipeline `pid` and state `x` only -/
theorem cell_eq_iff (a b : Nat) (x y : OpState) : a * 6 + x.idx = b * 6 + y.idx ↔ a = b ∧ x = y := by
  have hx := idx_lt x; have hy := idx_lt y
  constructor
  · intro e; exact ⟨by omega, idx_inj (by omega)⟩
  · rintro ⟨rfl, rfl⟩; rfl

theorem getD_modify2 (cnt : Array Nat) (i j k : Nat) (hi : i < cnt.size) (hj : j < cnt.size) :
    ((cnt.modify i (· - 1)).modify j (· + 1)).getD k 0 =
      (if j = k then 1 else 0) + (if i = k then cnt.getD k 0 - 1 else cnt.getD k 0) := by
  simp only [Array.getD_eq_getD_getElem?, Array.getElem?_modify]
  by_cases hk : k < cnt.size
  · rw [Array.getElem?_eq_getElem hk]
    by_cases h1 : j = k <;> by_cases h2 : i = k <;> simp [h1, h2] <;> omega
  · have h1 : j ≠ k := by omega
    have h2 : i ≠ k := by omega
    simp [h1, h2, Array.getElem?_eq_none (Nat.le_of_not_lt hk)]

theorem count_setSt (s : Store) (r : Nat) (t : OpState) (pid : Nat) (x : OpState)
    (hsz : (s.pidOf r + 1) * 6 ≤ s.cnt.size) :
    (s.setSt r t).count pid x =
      (if s.pidOf r = pid ∧ t = x then 1 else 0) +
      ((if s.pidOf r = pid ∧ s.stOf r = x then s.count pid x - 1 else s.count pid x)) := by
  have ht := idx_lt t; have ho := idx_lt (s.stOf r)
  show ((s.cnt.modify (s.pidOf r * 6 + (s.stOf r).idx) (· - 1)).modify (s.pidOf r * 6 + t.idx) (· + 1)).getD (pid * 6 + x.idx) 0 = _
  rw [getD_modify2 _ _ _ _ (by omega) (by omega)]
  simp only [cell_eq_iff, Store.count]

theorem hist_setSt (s : Store) (r : Nat) (t : OpState) (pid : Nat) (x : OpState) (hb : r < s.st.size) :
    (s.setSt r t).hist pid x + (if s.pidOf r = pid ∧ s.stOf r = x then 1 else 0) =
      s.hist pid x + (if s.pidOf r = pid ∧ t = x then 1 else 0) := by
  unfold Store.hist
  have hsz : (s.setSt r t).st.size = s.st.size := by simp [Store.setSt]
  rw [hsz]
  have hpid : ∀ k, (s.setSt r t).pidOf k = s.pidOf k := fun k => rfl
  have := countP_update (fun k => s.pidOf k == pid && s.stOf k == x)
    (fun k => (s.setSt r t).pidOf k == pid && (s.setSt r t).stOf k == x) r (List.range s.st.size)
    List.nodup_range (List.mem_range.mpr hb)
    (by intro k _ hne; simp only [hpid]; rw [stOf_setSt_ne s r k t (Ne.symm hne)])
  simp only [hpid, stOf_setSt_eq s r t hb] at this
  simp only [Bool.and_eq_true, beq_iff_eq] at this
  exact this

theorem countsInv_step {s s' : Store} {r : Nat} {t : OpState}
    (h : s.transition r t = .ok s') (inv : CountsInv s) : CountsInv s' := by
  obtain ⟨_, _, rfl, hb⟩ := transition_ok h
  constructor
  · intro k hk
    have : (s.setSt r t).cnt.size = s.cnt.size := by simp [Store.setSt]
    rw [this]
    have hk' : k < s.st.size := by simpa [Store.setSt] using hk
    exact inv.size k hk'
  · intro pid x
    rw [count_setSt s r t pid x (inv.size r hb)]
    have hh := hist_setSt s r t pid x hb
    rw [inv.ok pid x]
    by_cases h1 : s.pidOf r = pid ∧ s.stOf r = x
    · -- the moved operator is counted in the old histogram, so it is ≥ 1
      have hpos : 1 ≤ s.hist pid x := by
        unfold Store.hist
        apply List.countP_pos_iff.mpr
        exact ⟨r, List.mem_range.mpr hb, by simp [h1.1, h1.2]⟩
      simp only [h1, and_self, ↓reduceIte] at hh ⊢
      omega
    · simp only [h1, ↓reduceIte] at hh ⊢
      omega

theorem countsInv_steps {s s' : Store} (h : Steps s s') (inv : CountsInv s) : CountsInv s' := by
  induction h with
  | refl => exact inv
  | step r t h1 _ ih => exact ih (countsInv_step h1 inv)

end Eudoxia
