import EudoxiaModel.Proofs.DeadSusp
import EudoxiaModel.Proofs.TickFrame
/-! The executor tick with suspension requests, seen from the scheduler's side. -/
namespace Eudoxia
open OpState Extracted

def World.FinS (w : World) : Prop := ∀ p ∈ w.pools, ∀ c ∈ p.active ++ p.suspending, Fin w.store c

theorem finS_built {w0 w1 : World} {asgs : List Asg} (hr : WorldReady w0) (hb : Built w0 asgs w1) (hf : w0.FinS) :
    ∀ p ∈ w1.pools, ∀ c ∈ p.active ++ p.suspending, Fin w1.store c := by
  intro p hp c hc
  rw [hb.pools] at hp
  exact (hf p hp c hc).of_live ((hr.pools p hp).2.1.nc c hc) hb.steps

/-- `cs` are the containers behind the results `res`, `js` those whose write-out ended in this tick -/
structure TickEnds (w1 w2 : World) (sus : List (Nat × Nat)) (res : List Res) (cs js : List Ctr) : Prop where
  fin : w2.FinS
  res : res = cs.map mkRes
  ended : ∀ c ∈ cs, Fin w2.store c ∧ c.completed = true
  parked : ∀ c ∈ js, Fin w2.store c ∧ c.completed = false ∧ Parked w2.store c ∧ w1.WroteFrom sus c ∧ ∃ p ∈ w2.pools, c ∈ p.suspended
  nd : (allUnf cs ++ allUnf js).Nodup
  busy : ∀ o ∈ allUnf cs ++ allUnf js, Busy (w1.store.stOf o)
  old : ∀ p ∈ w2.pools, ∀ c ∈ p.suspended, (∃ q ∈ w1.pools, c ∈ q.suspended) ∨ c ∈ js
  wrote : ∀ p ∈ w2.pools, ∀ c ∈ p.suspending, w1.WroteFrom sus c

theorem execTick_finS {w0 w1 : World} {asgs : List Asg} {sus : List (Nat × Nat)} (hr : WorldReady w0) (hb : Built w0 asgs w1)
    (hseg : ∀ a ∈ asgs, ∀ r ∈ a.ops, w0.store.segsOf r ≠ []) (hpar : ∀ a ∈ asgs, ParentsOK w1.store a.ops)
    (hsus : ∀ i, ((sus.filter (·.1 == i)).map (·.2)).Nodup) (hf : w0.FinS)
    {w2 : World} {res : List Res} (hx : w1.execTick sus asgs = .ok (w2, res)) :
    ∃ cs js, TickEnds w1 w2 sus res cs js := by
  have hJ := poolsReady_of_built w0 w1 asgs hr hb hseg hpar
  obtain ⟨_, _, _, _, _, hexp, rfl⟩ := execTick_ok hx
  obtain ⟨cs, js, hres, L⟩ := execPools_finS hsus (S := fun o => Busy (w1.store.stOf o)) (old := fun c => ∃ q ∈ w1.pools, c ∈ q.suspended)
    (pre := fun c0 => ∃ q ∈ w1.pools, c0 ∈ q.suspending ∨ (c0 ∈ q.active ∧ c0.cid ∈ sus.map (·.2)))
    (fun o ho => by rw [(hb.assigned o ho).2]; exact Or.inl rfl) hexp hJ (cs := []) (js := [])
    { fin := fun p hp => finS_built hr hb hf p hp
      own := fun p hp o ho => by
        rw [hb.pools] at hp
        rw [hb.others o (built_owned hr hb p hp o ho).2]
        exact (built_owned hr hb p hp o ho).1
      oldT := fun p hp c hc => ⟨p, hp, hc⟩
      oldD := fun _ hp => nomatch hp
      preT := fun p hp c0 hc0 => ⟨p, hp, hc0⟩
      preD := fun _ hp => nomatch hp
      ended := fun _ hc => nomatch hc
      parked := fun _ hc => nomatch hc
      nd := List.nodup_nil
      out := fun _ ho => nomatch ho } rfl
  exact ⟨cs, js, fun p hp => L.fin p (List.mem_append_left _ hp), hres, L.ended, L.parked, L.nd, fun o ho => (L.out o ho).1, L.oldD, L.preD⟩

end Eudoxia
