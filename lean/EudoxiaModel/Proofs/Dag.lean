import EudoxiaModel.Model.Dag
/-! The DAG iterator visits every node exactly once, parents first (C01, third sentence). Core Lean only. -/
namespace Eudoxia.Dag
open List

theorem topo_nil (d : Dag) : Topo d [] := by
  intro l1 x l2 h; simp at h

theorem topo_snoc {d : Dag} {l : List Nat} {x : Nat} (h : Topo d l)
    (hx : ∀ p ∈ parentsOf d x, p ∈ l) : Topo d (l ++ [x]) := by
  intro l1 y l2 e p hp
  rcases List.eq_nil_or_concat l2 with rfl | ⟨l2', z, rfl⟩
  · obtain ⟨rfl, h2⟩ := List.append_inj' e rfl
    cases h2; exact hx p hp
  · rw [List.concat_eq_append, ← List.cons_append, ← List.append_assoc] at e
    exact h l1 y l2' (List.append_inj' e rfl).1 p hp

structure Inv (d : Dag) (s : It) : Prop where
  nodup : (s.returned ++ s.queue).Nodup
  bound : ∀ x ∈ s.returned ++ s.queue, x < d.length
  qready : ∀ x ∈ s.queue, ∀ p ∈ parentsOf d x, p ∈ s.returned
  topo : Topo d s.returned
  complete : ∀ x, x < d.length → (∀ p ∈ parentsOf d x, p ∈ s.returned) → x ∈ s.returned ++ s.queue

theorem mem_children {d : Dag} {a x : Nat} : x ∈ children d a ↔ x < d.length ∧ a ∈ parentsOf d x := by
  unfold children
  simp only [List.mem_flatMap, List.mem_range, List.mem_replicate]
  constructor
  · rintro ⟨i, hi, hne, rfl⟩
    exact ⟨hi, List.count_pos_iff.mp (Nat.pos_of_ne_zero hne)⟩
  · rintro ⟨hx, ha⟩
    exact ⟨x, hx, Nat.ne_of_gt (List.count_pos_iff.mpr ha), rfl⟩

theorem children_nodup {d : Dag} (wf : WF d) (a : Nat) : (children d a).Nodup := by
  unfold children
  -- each replicate has length ≤ 1, so this is a sublist of range
  have hsub : ∀ (l : List Nat), (l.flatMap (fun i => List.replicate ((parentsOf d i).count a) i)).Sublist l := by
    intro l
    induction l with
    | nil => simp
    | cons i l ih =>
      simp only [List.flatMap_cons]
      have hc : (parentsOf d i).count a ≤ 1 := List.nodup_iff_count.mp (wf.nodup i) a
      rcases Nat.le_one_iff_eq_zero_or_eq_one.mp hc with h0 | h1
      · rw [h0]; simpa using ih.cons i
      · rw [h1]; simpa using ih.cons_cons i
  exact (hsub _).nodup List.nodup_range

theorem ready_iff {d : Dag} {ret : List Nat} {x : Nat} : ready d ret x = true ↔ ∀ p ∈ parentsOf d x, p ∈ ret := by
  simp [ready, List.all_eq_true]

theorem mem_added {d : Dag} {ret : List Nat} {c x : Nat} :
    x ∈ (children d c).filter (fun ch => !ret.contains ch && ready d ret ch) ↔
      x < d.length ∧ c ∈ parentsOf d x ∧ x ∉ ret ∧ ∀ p ∈ parentsOf d x, p ∈ ret := by
  simp only [List.mem_filter, mem_children, Bool.and_eq_true, ready_iff, Bool.not_eq_true', List.contains_eq_mem, decide_eq_false_iff_not,
    and_assoc]

theorem step_inv {d : Dag} (wf : WF d) {s : It} (h : Inv d s) {c : Nat} {s' : It}
    (hs : stepIt d s = some (c, s')) : Inv d s' ∧ s'.returned = s.returned ++ [c] := by
  obtain ⟨_ | ⟨c', q⟩, ret⟩ := s
  · cases hs
  cases hs
  refine ⟨?_, rfl⟩
  obtain ⟨hnd, hbd, hqr, htopo, hcm⟩ := h
  dsimp only at hnd hbd hqr htopo hcm
  have hc : c ∉ ret := fun hmem => (List.nodup_append.mp hnd).2.2 c hmem c (List.mem_cons_self ..) rfl
  -- returned and queue after the step, taken together, are those before it followed by the added nodes
  have happ : ∀ add, (ret ++ [c]) ++ (q ++ add) = (ret ++ c :: q) ++ add := fun _ => by simp
  constructor <;> dsimp only
  · rw [happ, List.nodup_append]
    refine ⟨hnd, (children_nodup wf c).filter _, fun a ha b hb hab => ?_⟩
    subst hab
    obtain ⟨_, hcp, hnr, _⟩ := mem_added.mp hb
    rcases List.mem_append.mp ha with ha | ha
    · exact hnr (List.mem_append_left _ ha)
    · rcases List.mem_cons.mp ha with rfl | ha
      · exact hnr (List.mem_append_right _ (List.mem_singleton_self _))
      · exact hc (hqr a (List.mem_cons_of_mem _ ha) c hcp)
  · intro x hx
    rw [happ] at hx
    rcases List.mem_append.mp hx with h1 | h1
    · exact hbd x h1
    · exact (mem_added.mp h1).1
  · intro x hx p hp
    rcases List.mem_append.mp hx with hx | hx
    · exact List.mem_append_left _ (hqr x (List.mem_cons_of_mem _ hx) p hp)
    · obtain ⟨_, _, _, hready⟩ := mem_added.mp hx
      exact hready p hp
  · exact topo_snoc htopo (hqr c (List.mem_cons_self ..))
  · intro x hxn hpar
    rw [happ]
    by_cases hold : ∀ p ∈ parentsOf d x, p ∈ ret
    · exact List.mem_append_left _ (hcm x hxn hold)
    · -- a parent of `x` was not returned before this step and is now: it is `c`
      have hcx : c ∈ parentsOf d x := Classical.byContradiction fun hnc => hold fun p hp =>
        (List.mem_append.mp (hpar p hp)).resolve_right fun h1 => hnc (List.mem_singleton.mp h1 ▸ hp)
      by_cases hxr : x ∈ ret ++ [c]
      · refine List.mem_append_left _ ?_
        rw [List.mem_append, List.mem_singleton] at hxr
        exact List.mem_append.mpr (hxr.imp_right fun e => by rw [e]; exact List.mem_cons_self ..)
      · exact List.mem_append_right _ (mem_added.mpr ⟨hxn, hcx, hxr, hpar⟩)

theorem mem_roots {d : Dag} {x : Nat} : x ∈ roots d ↔ x < d.length ∧ parentsOf d x = [] := by
  simp [roots]

theorem init_inv (d : Dag) : Inv d { queue := roots d, returned := [] } := by
  constructor <;> dsimp only [List.nil_append]
  · exact List.nodup_range.filter _
  · exact fun x hx => (mem_roots.mp hx).1
  · intro x hx p hp
    rw [(mem_roots.mp hx).2] at hp; cases hp
  · exact topo_nil d
  · exact fun x hx hp => mem_roots.mpr ⟨hx, List.eq_nil_iff_forall_not_mem.mpr fun p hpp => List.not_mem_nil (hp p hpp)⟩

theorem run_spec {d : Dag} (wf : WF d) : ∀ fuel s, Inv d s →
    Inv d (runIt d fuel s) ∧ ((runIt d fuel s).queue = [] ∨ (runIt d fuel s).returned.length = s.returned.length + fuel) := by
  intro fuel
  induction fuel with
  | zero => intro s h; exact ⟨h, Or.inr rfl⟩
  | succ n ih =>
    intro s h
    obtain ⟨_ | ⟨c, q⟩, ret⟩ := s
    · exact ⟨h, Or.inl rfl⟩
    · obtain ⟨h1, h2⟩ := ih _ (step_inv wf h (c := c) rfl).1
      exact ⟨h1, h2.imp_right fun h2 => h2.trans (by simp only [List.length_append, List.length_singleton]; omega)⟩

theorem returned_len_le {d : Dag} {s : It} (h : Inv d s) : s.returned.length ≤ d.length := by
  have hsub : s.returned ⊆ List.range d.length := fun x hx => List.mem_range.mpr (h.bound x (List.mem_append_left _ hx))
  simpa using (List.nodup_append.mp h.nodup).1.length_le_of_subset hsub

theorem iterOrder_perm_topo {d : Dag} (wf : WF d) :
    (iterOrder d).Perm (List.range d.length) ∧ Topo d (iterOrder d) := by
  unfold iterOrder
  obtain ⟨hinv, hend⟩ := run_spec wf (d.length + 1) _ (init_inv d)
  generalize runIt d (d.length + 1) { queue := roots d, returned := [] } = s at hinv hend
  -- the fuel `d.length + 1` cannot be used up: that many nodes cannot be returned
  have hq : s.queue = [] := hend.resolve_right fun h => by
    have := returned_len_le hinv
    rw [List.length_nil] at h; omega
  refine ⟨?_, hinv.topo⟩
  rw [List.perm_ext_iff_of_nodup (List.nodup_append.mp hinv.nodup).1 List.nodup_range]
  intro a
  rw [List.mem_range]
  refine ⟨fun ha => hinv.bound a (List.mem_append_left _ ha), fun ha => ?_⟩
  -- by induction on the node: its parents are smaller, so they have been returned, so it is in the (empty) queue or returned
  induction a using Nat.strongRecOn with
  | _ a ih =>
    have := hinv.complete a ha fun p hp => ih p (wf.lt a p hp) (Nat.lt_trans (wf.lt a p hp) ha)
    rwa [hq, List.append_nil] at this

end Eudoxia.Dag
