import EudoxiaModel.Proofs.PriorityLoop
import EudoxiaModel.Proofs.WorldDead
/-! The priority-pool scheduler (multi-operator containers) in closed loop with the executor: the loop never raises.
    (With single-operator containers the shipped scheduler does raise: known finding D11.) -/
namespace Eudoxia.PP
open Eudoxia Eudoxia.Prio OpState Extracted

/-- `m` for multi-operator containers: a waiting job that may be handed to a container right now -/
structure JobOKm (w : World) (j : Job) : Prop where
  ne : j.ops ≠ []
  nd : j.ops.Nodup
  ok : ∀ o ∈ j.ops, o < w.store.st.size ∧ w.store.stOf o ∈ assignable ∧ w.store.segsOf o ≠ []
  par : ParentsOK w.store j.ops
  retry : ∀ rs, j.retry = some rs → 0 < rs.oldCpu ∧ 0 < rs.oldRam

structure JobsOKm (w : World) (js : List Job) : Prop where
  nd : (js.flatMap (·.ops)).Nodup
  ok : ∀ j ∈ js, JobOKm w j

theorem jobsOKm_push {w : World} {st : St} {j : Job} (p : Nat) (h : JobsOKm w st.jobs) (hj : JobOKm w j)
    (hnew : ∀ o ∈ j.ops, o ∉ st.jobs.flatMap (·.ops)) : JobsOKm w (st.push j p).jobs :=
  ⟨push_nodup p h.nd hj.nd hnew, push_forall p h.ok hj⟩

theorem jobOKm_keep {w w' : World} {j : Job} (hs : Steps w.store w'.store) (he : ∀ o ∈ j.ops, w'.store.stOf o = w.store.stOf o) (h : JobOKm w j) : JobOKm w' j :=
  ⟨h.ne, h.nd, fun o ho => ⟨by rw [hs.size]; exact (h.ok o ho).1, by rw [he o ho]; exact (h.ok o ho).2.1,
      by rw [hs.segsOf]; exact (h.ok o ho).2.2⟩,
    parentsOK_frame h.par hs.ops (completed_final hs), h.retry⟩

theorem parentsOK_drop {s : Store} {l : List Nat} (h : ParentsOK s l) (i : Nat) (hp : ∀ o ∈ l.take i, s.stOf o = completed) : ParentsOK s (l.drop i) := by
  intro pre o post e q hq
  have e' : l = (l.take i ++ pre) ++ o :: post := by
    rw [List.append_assoc, ← e, List.take_append_drop]
  rcases h (l.take i ++ pre) o post e' q hq with h1 | h1
  · exact Or.inl h1
  · rcases List.mem_append.mp h1 with h2 | h2
    · exact Or.inl (hp q h2)
    · exact Or.inr h2

theorem nonCompleted_unfinished (w : World) (c : Ctr) (hpre : PrefixDone w.store c) (hun : ∀ o ∈ c.unfinished, w.store.stOf o ≠ completed) :
    nonCompleted w c.ops = c.unfinished := by
  unfold nonCompleted
  conv => lhs; rw [← List.take_append_drop c.curOpIdx c.ops]
  rw [List.filter_append, List.filter_eq_nil_iff.mpr fun o ho => by simp [hpre o ho],
    List.filter_eq_self.mpr fun o ho => by simpa using hun o ho]
  rfl

/-- the static facts about a container the scheduler relies on when it retries its work; `F`: the pipelines still to arrive -/
def Good (F : List Nat) (s : Store) (c : Ctr) : Prop :=
  c.ops.Nodup ∧ (∀ o ∈ c.ops, o < s.st.size ∧ s.segsOf o ≠ [] ∧ s.pidOf o ∉ F) ∧ ParentsOK s c.ops ∧ 0 < c.cpu ∧ 0 < c.ram

theorem Good.pos {F : List Nat} {s : Store} {c : Ctr} (h : Good F s c) : 0 < c.cpu ∧ 0 < c.ram := h.2.2.2

theorem Good.arrived {F : List Nat} {s : Store} {c : Ctr} (h : Good F s c) {o : Nat} (ho : o ∈ c.ops) : s.pidOf o ∉ F := (h.2.1 o ho).2.2

theorem good_mono {F F' : List Nat} {s s' : Store} {c : Ctr} (h : Good F s c) (hs : Steps s s') (hF : ∀ x ∈ F', x ∈ F) : Good F' s' c := by
  obtain ⟨h1, h2, h3, h4, h5⟩ := h
  refine ⟨h1, fun o ho => ?_, parentsOK_frame h3 hs.ops (completed_final hs), h4, h5⟩
  obtain ⟨a, b, c'⟩ := h2 o ho
  rw [hs.size, hs.segsOf, hs.pidOf]
  exact ⟨a, b, fun hx => c' (hF _ hx)⟩

theorem good_of_same {F : List Nat} {s : Store} {c c' : Ctr} (ho : c'.ops = c.ops) (hk : key c' = key c) (h : Good F s c) : Good F s c' := by
  have hc : c'.cpu = c.cpu := by have := congrArg (fun k => k.2.1) hk; simpa [key] using this
  have hr : c'.ram = c.ram := by have := congrArg (fun k => k.2.2) hk; simpa [key] using this
  unfold Good
  rw [ho, hc, hr]
  exact h

theorem good_kept (cfg : Cfg) (F : List Nat) (s : Store) : Kept cfg (Good F s) :=
  .of_ident fun h hc => by unfold Good; rw [h.ops, h.cpu, h.ram]; exact hc

theorem filter_failed (cs : List Ctr) : (cs.map mkRes).filter (fun r => !r.ok) = (cs.filter (·.err)).map mkRes := by
  induction cs with
  | nil => rfl
  | cons c cs ih =>
    simp only [List.map_cons, List.filter_cons, ih]
    cases h : c.err <;> simp [mkRes, h]

/-- `ppEnqueue`, first loop: the pipelines that have just arrived are queued whole -/
def enqNew (w : World) (st : St) (newP : List Nat) : St :=
  newP.foldl (fun st pid => st.push { prio := w.prioOf pid, pid := pid, ops := (w.pipes.getD pid default).order } (w.prioOf pid)) st

/-- the step of `ppEnqueue`'s second loop, over the failed results -/
def failStep (w : World) (st : St) (f : Res) : Except Err St :=
  match nonCompleted w f.ops with
  | [] => .error .schedAssert
  | o :: _ => .ok (st.push { prio := f.prio, pid := w.store.pidOf o, ops := nonCompleted w f.ops, retry := some (retryOf f) } f.prio)

theorem ppEnqueue_def (w : World) (st : St) (res : List Res) (newP : List Nat) :
    ppEnqueue w st res newP = (res.filter (!·.ok)).foldlM (failStep w) (enqNew w st newP) := rfl

theorem enqNew_ok (w : World) (wf : w.WFP) (hs : w.SegsOK) (hpid : w.PidOK) (htopo : w.Topo) (st : St) (newP : List Nat) (hnd : newP.Nodup)
    (hj : JobsOKm w st.jobs)
    (hfresh : ∀ pid ∈ newP, (w.pipes.getD pid default).order ≠ [] ∧ ∀ o ∈ (w.pipes.getD pid default).order, w.store.stOf o = pending)
    (hQ : ∀ o ∈ st.jobs.flatMap (·.ops), w.store.pidOf o ∉ newP) :
    JobsOKm w (enqNew w st newP).jobs ∧
      ∀ o ∈ (enqNew w st newP).jobs.flatMap (·.ops), o ∈ st.jobs.flatMap (·.ops) ∨ (w.store.pidOf o ∈ newP ∧ w.store.stOf o = pending) := by
  refine foldl_inv (l := newP) (b := st) (fun pre (s : St) => JobsOKm w s.jobs ∧
      ∀ o ∈ s.jobs.flatMap Job.ops, o ∈ st.jobs.flatMap Job.ops ∨ (w.store.pidOf o ∈ pre ∧ w.store.stOf o = pending))
    ⟨hj, fun o ho => .inl ho⟩ fun pre pid post s e ⟨hjs, hq⟩ => ?_
  have hpm : pid ∈ newP := e ▸ List.mem_append_right _ List.mem_cons_self
  obtain ⟨hne, hpend⟩ := hfresh pid hpm
  have hjob : JobOKm w { prio := w.prioOf pid, pid := pid, ops := (w.pipes.getD pid default).order } :=
    ⟨hne, (wf pid).1, fun o ho => ⟨(wf pid).2 o ho, by rw [hpend o ho]; simp [assignable], hs pid o ho⟩,
      fun pre' o post' e' q hq' => .inr (htopo pid pre' o post' e' q hq'), fun rs h => nomatch h⟩
  have hnew : ∀ o ∈ (w.pipes.getD pid default).order, o ∉ s.jobs.flatMap (·.ops) := by
    intro o ho hin
    rcases hq o hin with h | h
    · exact hQ o h (hpid pid o ho ▸ hpm)
    · exact (List.nodup_append.mp (e ▸ hnd)).2.2 pid (hpid pid o ho ▸ h.1) pid List.mem_cons_self rfl
  refine ⟨jobsOKm_push _ hjs hjob hnew, fun o ho => ?_⟩
  rcases List.mem_append.mp ((push_ops_perm s _ _).mem_iff.mp ho) with h | h
  · exact (hq o h).imp_right fun h' => ⟨List.mem_append_left _ h'.1, h'.2⟩
  · exact .inr ⟨List.mem_append_right _ (by rw [hpid pid o h]; exact List.mem_singleton_self _), hpend o h⟩

theorem ppEnqueue_ok (w : World) (st : St) (cs : List Ctr) (newP F : List Nat)
    (wf : w.WFP) (hs : w.SegsOK) (hpid : w.PidOK) (htopo : w.Topo)
    (hj : JobsOKm w st.jobs) (hjF : ∀ o ∈ st.jobs.flatMap (·.ops), w.store.pidOf o ∉ newP ++ F)
    (hnd : (newP ++ F).Nodup)
    (hfut : ∀ pid ∈ newP ++ F, (w.pipes.getD pid default).order ≠ [] ∧ ∀ o ∈ (w.pipes.getD pid default).order, w.store.stOf o = pending)
    (hcs : ∀ c ∈ cs, Fin w.store c ∧ c.completed = true ∧ Good (newP ++ F) w.store c)
    (hcnd : (allUnf cs).Nodup) (hcq : ∀ o ∈ allUnf cs, o ∉ st.jobs.flatMap (·.ops)) :
    ∃ st', ppEnqueue w st (cs.map mkRes) newP = .ok st' ∧ JobsOKm w st'.jobs ∧
      ∀ o ∈ st'.jobs.flatMap (·.ops), w.store.pidOf o ∉ F := by
  rw [ppEnqueue_def, filter_failed, List.foldlM_map]
  obtain ⟨a1, a2⟩ := enqNew_ok w wf hs hpid htopo st newP (List.nodup_append.mp hnd).1 hj
    (fun pid hp => hfut pid (List.mem_append_left _ hp)) (fun o ho hx => hjF o ho (List.mem_append_left _ hx))
  have hsub : (cs.filter (·.err)).Sublist cs := List.filter_sublist
  have key := foldlM_ok (f := fun s c => failStep w s (mkRes c)) (l := cs.filter (·.err)) (b := enqNew w st newP)
    (fun pre s => JobsOKm w s.jobs ∧ ∀ o ∈ s.jobs.flatMap Job.ops, o ∈ (enqNew w st newP).jobs.flatMap Job.ops ∨ o ∈ allUnf pre)
    ⟨a1, fun o ho => .inl ho⟩ ?_
  · -- none of it belongs to a pipeline still to arrive
    obtain ⟨s', e1, e2, e3⟩ := key
    refine ⟨s', e1, e2, fun o ho hF => ?_⟩
    rcases e3 o ho with h | h
    · rcases a2 o h with h' | h'
      · exact hjF o h' (List.mem_append_right _ hF)
      · exact (List.nodup_append.mp hnd).2.2 _ h'.1 _ hF rfl
    · obtain ⟨c, hc, hoc⟩ := List.mem_flatMap.mp h
      exact (hcs c (hsub.subset hc)).2.2.arrived ((List.drop_sublist _ _).subset hoc) (List.mem_append_right _ hF)
  intro pre c post s e ⟨hjs, hq⟩
  obtain ⟨hc1, hce⟩ := List.mem_filter.mp (e ▸ List.mem_append_right pre List.mem_cons_self)
  obtain ⟨fc, hcc, g1, g2, g3, g4, g5⟩ := hcs c hc1
  obtain ⟨hne, hfailed⟩ := fc.dead hcc hce
  have hU : nonCompleted w (mkRes c).ops = c.unfinished := nonCompleted_unfinished w c fc.pre fun o ho => by rw [hfailed o ho]; decide
  obtain ⟨o, os, hcons⟩ := List.exists_cons_of_ne_nil hne
  have hsubo : ∀ x ∈ c.unfinished, x ∈ c.ops := fun x hx => (List.drop_sublist _ _).subset hx
  have hjob : JobOKm w { prio := (mkRes c).prio, pid := w.store.pidOf o, ops := c.unfinished, retry := some (retryOf (mkRes c)) } :=
    ⟨hne, unfinished_nodup g1, fun x hx => ⟨(g2 x (hsubo x hx)).1, by rw [hfailed x hx]; simp [assignable], (g2 x (hsubo x hx)).2.1⟩,
      parentsOK_drop g3 c.curOpIdx fc.pre, fun rs hrs => by cases hrs; exact ⟨g4, g5⟩⟩
  have hndF := (allUnf_sublist hsub).nodup hcnd
  rw [e, allUnf_append, allUnf_cons] at hndF
  have hnew : ∀ x ∈ c.unfinished, x ∉ s.jobs.flatMap (·.ops) := by
    intro x hx hin
    rcases hq x hin with h | h
    · rcases a2 x h with h' | h'
      · exact hcq x (mem_allUnf hc1 hx) h'
      · rw [hfailed x hx] at h'; cases h'.2
    · exact (List.nodup_append.mp hndF).2.2 x h x (List.mem_append_left _ hx) rfl
  refine ⟨s.push { prio := (mkRes c).prio, pid := w.store.pidOf o, ops := c.unfinished, retry := some (retryOf (mkRes c)) } (mkRes c).prio,
    by unfold failStep; rw [hU, hcons], jobsOKm_push _ hjs hjob hnew, fun x hx => ?_⟩
  rcases List.mem_append.mp ((push_ops_perm s _ _).mem_iff.mp hx) with h | h
  · exact (hq x h).imp_right fun h' => by rw [allUnf_append]; exact List.mem_append_left _ h'
  · exact .inr (mem_allUnf (List.mem_append_right _ (List.mem_singleton_self c)) h)

def SnOK (s : Snap) : Prop := 0 ≤ s.availC ∧ 0 ≤ s.availR ∧ (s.availC = 0 ↔ s.availR = 0)

/-- a pool that is not there shows nothing free of either -/
def SnsOK (sn : List Snap) : Prop := ∀ i, SnOK (sn.getD i default)

theorem SnsOK.nonNeg {sn : List Snap} (h : SnsOK sn) : C08.NonNegS sn := by
  intro s hs
  obtain ⟨i, hi, rfl⟩ := List.getElem_of_mem hs
  have := h i
  rw [List.getD_eq_getElem?_getD, List.getElem?_eq_getElem hi] at this
  exact ⟨this.1, this.2.1⟩

theorem jobOKm_pred : JobPred JobOKm where
  ops _ _ h := ⟨h.ne, h.nd, fun o ho => ⟨(h.ok o ho).1, (h.ok o ho).2.1⟩⟩
  keep _ _ _ hs he h := jobOKm_keep hs he h

/-- priority-pool's own assertion is "free RAM is zero iff free CPU is zero": every container takes all that is left of both resources or strictly
    less of both, so the snapshots keep satisfying it -/
theorem snOK_sub {a b : Int} {jc jr : Nat} (h : ((jc : Int) = a ∧ (jr : Int) = b) ∨ ((jc : Int) < a ∧ (jr : Int) < b)) :
    0 ≤ a - jc ∧ 0 ≤ b - jr ∧ (a - jc = 0 ↔ b - jr = 0) := by
  omega

theorem ppSuits {q : Nat} (hq : 0 < q) (pool : Nat) {JP : World → Job → Prop}
    (hr : ∀ w j, JP w j → ∀ rs, j.retry = some rs → 0 < rs.oldCpu ∧ 0 < rs.oldRam) : Suits (ppPick pool) (ppSize q) SnsOK JP where
  picks sn h := by
    obtain ⟨_, _, zt⟩ := h pool
    unfold ppPick
    by_cases hz : ((sn.getD pool default).availR == 0 || (sn.getD pool default).availC == 0) = true
    · rw [if_pos hz]
      simp only [Bool.or_eq_true, beq_iff_eq] at hz
      have hboth := hz.elim (fun hR => And.intro hR (zt.mpr hR)) fun hC => ⟨zt.mp hC, hC⟩
      rw [if_pos (by simp only [Bool.and_eq_true, beq_iff_eq]; exact hboth)]
      exact Option.some_ne_none _
    · rw [if_neg hz]
      exact Option.some_ne_none _
  sized w j sn p jc jr hj hI hp hs := by
    obtain ⟨hlt, h0, h1⟩ := C08.ppPick_open pool sn p hI.nonNeg hp
    obtain ⟨pc, pr, hboth⟩ := C08.ppSize_both q hq _ j jc jr h0 h1 (hr w j hj) hs
    refine ⟨pc, pr, fun i => ?_⟩
    rw [C08.snapSub_getD _ _ _ _ _ hlt]
    split
    · exact snOK_sub hboth
    · exact hI i

theorem ppRun_asgs {q pool : Nat} {sn sn' : List Snap} {js : List Job} {new : List Asg} (r : QRun (ppPick pool) (ppSize q) sn js new sn') :
    ∀ a ∈ new, a.pool = pool ∧ ∃ j ∈ js, a.ops = j.ops ∧ a.prio = j.prio :=
  fun a ha => ⟨r.pool (n := sn.length) (fun _ _ _ hp => (ppPick_some hp).1) rfl a ha, r.job ha⟩

/-- `ZT` for "zero together": what `SnOK` asks of a pool's snapshot -/
def PoolZT (p : Pool) : Prop := 0 ≤ p.availC ∧ 0 ≤ p.availR ∧ (p.availC = 0 ↔ p.availR = 0)

theorem snsOK_snaps {w : World} (hzt : ∀ p ∈ w.pools, PoolZT p) : SnsOK (snaps w) := by
  intro i
  rw [List.getD_eq_getElem?_getD, snaps, List.getElem?_map]
  cases hp : w.pools[i]? with
  | none => exact ⟨Int.le_refl _, Int.le_refl _, Iff.rfl⟩
  | some p => exact hzt p (List.mem_of_getElem? hp)

/-- one round of priority-pool never raises (multi-operator containers, two pools); the scheduler's end-of-round snapshot `snE` is what the pools show
once the containers are started -/
theorem ppRound_run (w : World) (st : St) (cs : List Ctr) (newP F : List Nat) (hq : 0 < w.cfg.q) (hzt : ∀ p ∈ w.pools, PoolZT p)
    (wf : w.WFP) (hs : w.SegsOK) (hpid : w.PidOK) (htopo : w.Topo)
    (hj : JobsOKm w st.jobs) (hjF : ∀ o ∈ st.jobs.flatMap (·.ops), w.store.pidOf o ∉ newP ++ F)
    (hnd : (newP ++ F).Nodup)
    (hfut : ∀ pid ∈ newP ++ F, (w.pipes.getD pid default).order ≠ [] ∧ ∀ o ∈ (w.pipes.getD pid default).order, w.store.stOf o = pending)
    (hcs : ∀ c ∈ cs, Fin w.store c ∧ c.completed = true ∧ Good (newP ++ F) w.store c)
    (hcnd : (allUnf cs).Nodup) (hcq : ∀ o ∈ allUnf cs, o ∉ st.jobs.flatMap (·.ops)) :
    ∃ w' st' asgs snE, ppRound w st (cs.map mkRes) newP = .ok (w', st', { sus := [], asgs := asgs }) ∧ Built w asgs w' ∧ JobsOKm w' st'.jobs ∧
      (∀ o ∈ st'.jobs.flatMap (·.ops), w.store.pidOf o ∉ F) ∧
      (∀ a ∈ asgs, a.pool < 2) ∧ (∀ a ∈ asgs, ∃ j, JobOKm w j ∧ a.ops = j.ops) ∧ (∀ a ∈ asgs, ∀ o ∈ a.ops, w.store.pidOf o ∉ F) ∧
      C08.Budget (snaps w) snE asgs ∧ SnsOK snE := by
  obtain ⟨st0, henq, hj0, hF0⟩ := ppEnqueue_ok w st cs newP F wf hs hpid htopo hj hjF hnd hfut hcs hcnd hcq
  have hsn0 := snsOK_snaps hzt
  have su : ∀ pool, Suits (ppPick pool) (ppSize w.cfg.q) SnsOK JobOKm := fun pool => ppSuits hq pool fun _ _ h => h.retry
  obtain ⟨w1, sn1, m1, new1, w2, sn2, m2, new2, w3, sn3, m3, new3, t1, t2, t3, hnd', hok'⟩ :=
    gQueue_round (su 0) (su 0) (su 1) jobOKm_pred (l1 := st0.qry) (l2 := st0.inter) (l3 := st0.batch) hj0.nd hj0.ok hsn0
  obtain ⟨_, bb1⟩ := t1.qrun.budget (C08.ppPick_open 0) (C08.ppSize_fits _) hsn0.nonNeg
  obtain ⟨_, bb2⟩ := t2.qrun.budget (C08.ppPick_open 0) (C08.ppSize_fits _) t1.inv.nonNeg
  obtain ⟨_, bb3⟩ := t3.qrun.budget (C08.ppPick_open 1) (C08.ppSize_fits _) t2.inv.nonNeg
  have hleft : ∀ j ∈ st0.qry.drop m1 ++ st0.inter.drop m2 ++ st0.batch.drop m3, j ∈ st0.jobs :=
    fun j hj' => (((List.drop_sublist _ _).append (List.drop_sublist _ _)).append (List.drop_sublist _ _)).subset hj'
  have fromq : ∀ {pool : Nat} {sn sn' : List Snap} {l : List Job} {m : Nat} {new : List Asg}, QRun (ppPick pool) (ppSize w.cfg.q) sn (l.take m) new sn' →
      pool < 2 → (∀ j ∈ l, j ∈ st0.jobs) → ∀ a ∈ new, a.pool < 2 ∧ (∃ j, JobOKm w j ∧ a.ops = j.ops) ∧ ∀ o ∈ a.ops, w.store.pidOf o ∉ F := by
    intro pool sn sn' l m new r hp hl a ha
    obtain ⟨ep, j, hj', eo, _⟩ := ppRun_asgs r a ha
    have hjj := hl j (List.mem_of_mem_take hj')
    exact ⟨ep ▸ hp, ⟨j, hj0.ok j hjj, eo⟩, fun o ho => hF0 o (List.mem_flatMap.mpr ⟨j, hjj, eo ▸ ho⟩)⟩
  have hall : ∀ a ∈ new1 ++ new2 ++ new3, a.pool < 2 ∧ (∃ j, JobOKm w j ∧ a.ops = j.ops) ∧ ∀ o ∈ a.ops, w.store.pidOf o ∉ F :=
    List.forall_mem_append.mpr ⟨List.forall_mem_append.mpr
      ⟨fromq t1.qrun (by omega) fun j h => List.mem_append_left _ (List.mem_append_left _ h),
       fromq t2.qrun (by omega) fun j h => List.mem_append_left _ (List.mem_append_right _ h)⟩,
      fromq t3.qrun (by omega) fun j h => List.mem_append_right _ h⟩
  refine ⟨w3, { st0 with qry := st0.qry.drop m1, inter := st0.inter.drop m2, batch := st0.batch.drop m3 }, new1 ++ new2 ++ new3, sn3, ?_,
    (t1.built.append t2.built).append t3.built, ⟨hnd', hok'⟩, ?_, fun a ha => (hall a ha).1, fun a ha => (hall a ha).2.1, fun a ha => (hall a ha).2.2,
    C08.budget_trans (C08.budget_trans bb1 bb2) bb3, t3.inv⟩
  · unfold ppRound
    simp only [henq, ppQueue_eq, t1.run, t2.run, t3.run]
  · intro o ho
    obtain ⟨j, hj', hoj⟩ := List.mem_flatMap.mp ho
    exact hF0 o (List.mem_flatMap.mpr ⟨j, hleft j hj', hoj⟩)

theorem sum_pos_of (f : Ctr → Nat) {l : List Ctr} (h : ∀ c ∈ l, 0 < f c) :
    0 ≤ (l.map (fun c => (f c : Int))).sum ∧ (l ≠ [] → 0 < (l.map (fun c => (f c : Int))).sum) := by
  induction l with
  | nil => exact ⟨Int.le_refl _, fun h => absurd rfl h⟩
  | cons c cs ih =>
    have hc := h c List.mem_cons_self
    have := (ih fun x hx => h x (List.mem_cons_of_mem _ hx)).1
    rw [List.map_cons, List.sum_cons]
    exact ⟨by omega, fun _ => by omega⟩

theorem poolRun_avail {cfg : Cfg} {w w' : Store} {p p' : Pool} {res : List Res} {P : Ctr → Prop} (k : Kept cfg P)
    (hs : p.suspending = []) (hp : AllC P p.active) (h : poolRun cfg w p = .ok (w', p', res)) :
    ∃ D : List Ctr, p'.availC = p.availC + cpuSum D ∧ p'.availR = p.availR + ramSum D ∧ ∀ c ∈ D, P c := by
  obtain ⟨w3, p3, w4, act4, cons4, p5, h3, h4, h5, rfl, _⟩ := poolRun_ok h
  obtain ⟨l, hl, rfl⟩ := suspTickAll_ok h3
  rw [hs] at hl
  cases hl
  -- with nothing written out, only phase 6 touches the free amounts
  have hav : p5.availC = p.availC ∧ p5.availR = p.availR := by
    obtain ⟨_, _, _, _, ⟨_, _, rfl⟩ | ⟨_, _, _, _, rfl⟩⟩ := oomKiller_ok h5 <;> simp [cpuSum, ramSum]
  refine ⟨p5.active.filter (·.completed), by rw [(collect_spec p5).availC, hav.1], by rw [(collect_spec p5).availR, hav.2], fun c hc => ?_⟩
  -- each of them was ticked and then killed or left alone
  obtain ⟨c4, hc4, hk⟩ := (oomKiller_ran h5).2.1 c (List.mem_filter.mp hc).1
  obtain ⟨c0, hc0, ht⟩ := (tickAll_pass h4).forall₂.mem_right hc4
  exact k.ranTo ⟨c4, ht, hk⟩ (hp c0 hc0)

theorem poolTick_avail {cfg : Cfg} {w w' : Store} {p p' : Pool} {n n' : Nat} {asgs : List Asg} {res : List Res} {P : Ctr → Prop} (k : Kept cfg P)
    (pinv : PoolInv p n) (hs : p.suspending = []) (hp : AllC P p.active) (ha : ∀ a ∈ asgs, ∀ j, P (mkCtr w j a))
    (h : poolTick cfg w p n { susp := [], asgs := asgs } = .ok (w', p', n', res)) :
    n ≤ n' ∧ ∃ D : List Ctr, p'.availC = p.availC - cpuReq asgs + cpuSum D ∧ p'.availR = p.availR - ramReq asgs + ramSum D ∧ ∀ c ∈ D, P c := by
  obtain ⟨w1, p1, p2, _, hsp, _, hst, hr⟩ := poolTick_ok h
  cases hsp
  obtain ⟨_, hn, _, _, ec, er⟩ := startAll_inv pinv hst
  obtain ⟨D, d1, d2, d3⟩ := poolRun_avail k (by rw [(startAll_lists hst).1, hs])
    (startAll_kept hst hp ha) hr
  exact ⟨hn, D, by rw [d1, ec], by rw [d2, er], d3⟩

/-- `PoolZT` of what a pool shows free once this round's containers are started -/
def PostZT (p : Pool) (as : List Asg) : Prop :=
  0 ≤ p.availC - cpuReq as ∧ 0 ≤ p.availR - ramReq as ∧ (p.availC - cpuReq as = 0 ↔ p.availR - ramReq as = 0)

theorem zt_add_pos {a b c r : Int} (za : 0 ≤ a) (zb : 0 ≤ b) (hc : 0 < c) (hr : 0 < r) : 0 ≤ a + c ∧ 0 ≤ b + r ∧ (a + c = 0 ↔ b + r = 0) := by
  omega

/-- starting the round's containers leaves the pool at the scheduler's end-of-round snapshot, and every container that ends gives back a positive amount
of both -/
theorem execPools_zt {cfg : Cfg} {asgs : List Asg} {P : Ctr → Prop} (k : Kept cfg P) (hpos : ∀ c, P c → 0 < c.cpu ∧ 0 < c.ram)
    (ha : ∀ a ∈ asgs, ∀ (s : Store) j, P (mkCtr s j a))
    {todo done ps : List Pool} {s s' : Store} {n n' : Nat} {res res' : List Res}
    (h : execPools cfg [] asgs s n done todo res = .ok (s', ps, n', res'))
    (hinv : ∀ p ∈ todo, ∃ n0, n0 ≤ n ∧ PoolInv p n0) (hP : ∀ p ∈ todo, AllC P p.active ∧ p.suspending = []) (hz : ∀ p ∈ done, PoolZT p)
    (hpost : ∀ j p, todo[j]? = some p → PostZT p (asgs.filter (·.pool == done.length + j))) : ∀ p ∈ ps, PoolZT p := by
  induction h using execPools_induct with
  | nil => exact hz
  | @step s n done p rest res s1 p1 n1 r s' ps n' res' _ hpt _ ih =>
    obtain ⟨n0, hn0, pinv⟩ := hinv p List.mem_cons_self
    obtain ⟨hPa, hPs⟩ := hP p List.mem_cons_self
    have hpt' : poolTick cfg s p n { susp := [], asgs := asgs.filter (·.pool == done.length) } = .ok (s1, p1, n1, r) := hpt
    obtain ⟨hn1, D, d1, d2, d3⟩ := poolTick_avail k (pinv.mono hn0) hPs hPa (fun a haa j => ha a (List.mem_filter.mp haa).1 s j) hpt'
    have hz1 : PoolZT p1 := by
      obtain ⟨z1, z2, z3⟩ := hpost 0 p rfl
      rw [Nat.add_zero] at z1 z2 z3
      have c1 := sum_pos_of (·.cpu) fun c hc => (hpos c (d3 c hc)).1
      have c2 := sum_pos_of (·.ram) fun c hc => (hpos c (d3 c hc)).2
      unfold PoolZT
      rw [d1, d2]
      by_cases hD : D = []
      · subst hD; simp only [cpuSum, ramSum, List.map_nil, List.sum_nil, Int.add_zero]; exact ⟨z1, z2, z3⟩
      · exact zt_add_pos z1 z2 (c1.2 hD) (c2.2 hD)
    refine ih (fun q hq => ?_) (fun q hq => hP q (List.mem_cons_of_mem _ hq)) (fun q hq => ?_) fun j q hjq => ?_
    · obtain ⟨m, hm, qi⟩ := hinv q (List.mem_cons_of_mem _ hq)
      exact ⟨m, Nat.le_trans hm hn1, qi⟩
    · rcases List.mem_append.mp hq with hq | hq
      · exact hz q hq
      · rw [List.mem_singleton.mp hq]; exact hz1
    · have := hpost (j + 1) q (List.getElem?_cons_succ.trans hjq)
      rw [List.length_append, List.length_singleton, Nat.add_assoc, Nat.add_comm 1 j]
      exact this

/-- what the closed loop of priority-pool (multi-operator containers) keeps true from tick to tick; `cs`: the containers behind the results the
scheduler is about to be handed, `F`: the pipelines still to arrive -/
structure PPInv (w : World) (st : St) (cs : List Ctr) (F : List Nat) : Prop where
  ready : WorldReady w
  wfp : w.WFP
  segs : w.SegsOK
  pid : w.PidOK
  topo : w.Topo
  fin : w.FinOK
  multi : w.cfg.multiOp = true
  q : 0 < w.cfg.q
  two : w.pools.length = 2
  zt : ∀ p ∈ w.pools, PoolZT p
  jobs : JobsOKm w st.jobs
  jobsF : ∀ o ∈ st.jobs.flatMap (·.ops), w.store.pidOf o ∉ F
  fnd : F.Nodup
  fut : ∀ pid ∈ F, (w.pipes.getD pid default).order ≠ [] ∧ ∀ o ∈ (w.pipes.getD pid default).order, w.store.stOf o = pending
  good : ∀ p ∈ w.pools, AllC (Good F w.store) p.active
  res : ∀ c ∈ cs, Fin w.store c ∧ c.completed = true ∧ Good F w.store c
  resnd : (allUnf cs).Nodup
  resq : ∀ o ∈ allUnf cs, o ∉ st.jobs.flatMap (·.ops)  -- what the reported containers left unfinished is in no queue yet

theorem mkRes_same {c c' : Ctr} (h : mkRes c = mkRes c') : c.ops = c'.ops ∧ key c = key c' := by
  unfold mkRes at h
  injection h with h1 h2 h3 h4 h5 h6 h7
  exact ⟨h3, by unfold key; rw [h1, h4, h5]⟩

theorem postZT_of_budget {w : World} {asgs : List Asg} {snE : List Snap} (hbud : C08.Budget (snaps w) snE asgs) (hsn : SnsOK snE)
    {j : Nat} {p : Pool} (hjp : w.pools[j]? = some p) : PostZT p (asgs.filter (·.pool == j)) := by
  obtain ⟨bc, br⟩ := hbud j
  obtain ⟨sc, sr⟩ := C08.snaps_getD w j (List.getElem?_eq_some_iff.mp hjp).1
  have hpd : w.pools.getD j default = p := by rw [List.getD_eq_getElem?_getD, hjp]; rfl
  rw [hpd] at sc sr
  have hon : C08.on asgs j = asgs.filter (·.pool == j) := rfl
  rw [hon] at bc br
  unfold PostZT
  rw [← sc, ← sr, ← bc, ← br, Int.add_sub_cancel, Int.add_sub_cancel]
  exact hsn j

theorem batch_ok {w w1 : World} {asgs : List Asg} (hb : Built w asgs w1) (hm : w.cfg.multiOp = true) (hall : ∀ a ∈ asgs, ∃ j, JobOKm w j ∧ a.ops = j.ops) :
    (∀ a ∈ asgs, ∀ r ∈ a.ops, w.store.segsOf r ≠ []) ∧ (∀ a ∈ asgs, ParentsOK w1.store a.ops) ∧ ∀ a ∈ asgs, opCountOk w1.cfg a = true := by
  obtain ⟨_, e2, _, est⟩ := built_frame hb
  refine ⟨fun a ha r hr => ?_, fun a ha => ?_, fun a ha => ?_⟩ <;> obtain ⟨j, hjo, eo⟩ := hall a ha
  · exact (hjo.ok r (eo ▸ hr)).2.2
  · rw [eo]
    exact parentsOK_frame hjo.par est.ops (completed_final est)
  · exact opCountOk_of (eo ▸ hjo.ne) (.inl (e2 ▸ hm))

theorem good_mkCtr {w w1 : World} {F : List Nat} {a : Asg} {jb : Job} (hs : Steps w.store w1.store) (hjo : JobOKm w jb) (eo : a.ops = jb.ops)
    (hpf : ∀ o ∈ a.ops, w.store.pidOf o ∉ F) (hpar : ParentsOK w1.store a.ops) (hpos : 0 < a.cpu ∧ 0 < a.ram) (s : Store) (n : Nat) :
    Good F w1.store (mkCtr s n a) := by
  refine ⟨show a.ops.Nodup from eo ▸ hjo.nd, fun o ho => ?_, hpar, hpos.1, hpos.2⟩
  have hok := hjo.ok o (eo ▸ ho)
  rw [hs.size, hs.segsOf, hs.pidOf]
  exact ⟨hok.1, hok.2.2, hpf o ho⟩

theorem untouched_kept {w w1 : World} {asgs : List Asg} {s2 : Store} (hb : Built w asgs w1)
    (hkeep : ∀ o, w1.store.stOf o ∈ assignable → s2.stOf o = w1.store.stOf o) {l : List Nat} (hno : ∀ a ∈ asgs, ∀ o ∈ a.ops, o ∉ l)
    (hpend : ∀ o ∈ l, w.store.stOf o = pending) : ∀ o ∈ l, s2.stOf o = pending := by
  intro o ho
  have hnot : o ∉ asgs.flatMap (·.ops) := fun hin => let ⟨a, ha, hoa⟩ := List.mem_flatMap.mp hin; hno a ha o hoa ho
  have h1 : w1.store.stOf o = pending := by rw [hb.others o hnot]; exact hpend o ho
  rw [hkeep o (by rw [h1]; simp [assignable])]; exact h1

/-- one scheduling round of priority-pool (multi-operator containers) plus one executor tick never raise, and `PPInv` holds again -/
theorem pp_tick_never_raises (w : World) (st : St) (cs : List Ctr) (newP F : List Nat) (inv : PPInv w st cs (newP ++ F)) :
    ∃ w1 st1 dec w2 cs2, ppRound w st (cs.map mkRes) newP = .ok (w1, st1, dec) ∧ w1.execTick dec.sus dec.asgs = .ok (w2, cs2.map mkRes) ∧ PPInv w2 st1 cs2 F := by
  obtain ⟨w1, st1, asgs, snE, hrd, hb, hj1, hF1, hpool, hjob, harr, hbud, hsnE⟩ := ppRound_run w st cs newP F inv.q inv.zt inv.wfp inv.segs inv.pid
    inv.topo inv.jobs inv.jobsF inv.fnd inv.fut inv.res inv.resnd inv.resq
  obtain ⟨e1, e2, e3, est⟩ := built_frame hb
  have bpos := hb.pos
  obtain ⟨hseg0, hpar, hcnt⟩ := batch_ok hb inv.multi hjob
  obtain ⟨w2, res2, hex, r2, _, p2, c2, st02, st2⟩ := execTick_of_round inv.ready (fun p hp => (inv.fin p hp).1)
    { built := hb, seg := hseg0, par := hpar
      pool := fun a ha => inv.two ▸ hpool a ha
      verified := verified_at fun k hk => C08.accepted_of_budget w snE asgs hbud hsnE.nonNeg k hk
      count := e2 ▸ hcnt }
  obtain ⟨hfin2, cs2, rfl, hcs2, hnd2, hbusy2⟩ := execTick_fin w w1 asgs inv.ready hb hseg0 hpar inv.fin hex
  have hgood1 : ∀ p ∈ w1.pools, AllC (Good F w1.store) p.active ∧ p.suspending = [] := by
    intro p hp
    rw [e1] at hp
    exact ⟨fun c hc => good_mono (inv.good p hp c hc) est fun x hx => List.mem_append_right _ hx, (inv.fin p hp).1⟩
  have hgoodA : ∀ a ∈ asgs, ∀ (s : Store) j, Good F w1.store (mkCtr s j a) := fun a ha s j =>
    let ⟨_, hjo, eo⟩ := hjob a ha
    good_mkCtr est hjo eo (harr a ha) (hpar a ha) (bpos a ha).2 s j
  obtain ⟨hp2, hr2⟩ := execTick_kept (good_kept w1.cfg F w1.store) hgoodA (fun p hp => (hgood1 p hp).1) hex
  have hg1 : w1.PoolsGood := fun p hp => by rw [e2, e3]; exact (inv.ready.pools p (e1 ▸ hp)).1.1
  have hzt2 : ∀ p ∈ w2.pools, PoolZT p := by
    obtain ⟨_, _, s, ps, n, hexp, rfl⟩ := execTick_ok hex
    exact execPools_zt (good_kept w1.cfg F w1.store) (fun _ hc => hc.pos) hgoodA hexp
      (fun p hp => ⟨_, Nat.le_refl _, (hg1 p hp).1⟩) hgood1 (fun _ h => nomatch h)
      fun j p hjp => by rw [List.length_nil, Nat.zero_add]; exact postZT_of_budget hbud hsnE (e1 ▸ hjp)
  refine ⟨w1, st1, { sus := [], asgs := asgs }, w2, cs2, hrd, hex, ?_⟩
  exact {
    ready := r2
    wfp := inv.wfp.steps p2 st02
    segs := inv.segs.steps p2 st02
    pid := inv.pid.steps p2 st02
    topo := inv.topo.steps p2 st02
    fin := hfin2
    multi := by rw [c2]; exact inv.multi
    q := by rw [c2]; exact inv.q
    two := by
      have := congrArg List.length (execTick_good_ok hg1 hex).2.1
      simp only [World.caps, List.length_map] at this
      rw [this, e1]; exact inv.two
    zt := hzt2
    -- the queued operators are PENDING or FAILED, which a tick never moves
    jobs := ⟨hj1.nd, fun j hj =>
      jobOKm_keep st2 (fun x hx => execTick_keeps_assignable inv.ready hb hseg0 hpar hex ((hj1.ok j hj).ok x hx).2.1) (hj1.ok j hj)⟩
    jobsF := fun o ho => st02.pidOf o ▸ hF1 o ho
    fnd := (List.nodup_append.mp inv.fnd).2.1
    fut := by
      intro pid hpidF
      rw [p2]
      obtain ⟨hne, hpend⟩ := inv.fut pid (List.mem_append_right _ hpidF)
      exact ⟨hne, untouched_kept hb (fun o => execTick_keeps_assignable inv.ready hb hseg0 hpar hex)
        (fun a ha o hoa ho => harr a ha o hoa (by rw [inv.pid pid o ho]; exact hpidF)) hpend⟩
    good := fun p hp c hc => good_mono (hp2 p hp c hc) st2 (fun x hx => hx)
    res := by
      intro c hc
      obtain ⟨f, hcc⟩ := hcs2 c hc
      obtain ⟨c', hg', e'⟩ := hr2 (mkRes c) (List.mem_map_of_mem hc)
      obtain ⟨eo, ek⟩ := mkRes_same e'
      exact ⟨f, hcc, good_mono (good_of_same eo ek hg') st2 (fun x hx => hx)⟩
    resnd := hnd2
    -- operators of the new results were busy when the tick began; the queued ones were not
    resq := by
      intro o ho hin
      obtain ⟨j, hj, hoj⟩ := List.mem_flatMap.mp hin
      exact not_busy_of_assignable ((hj1.ok j hj).ok o hoj).2.1 (hbusy2 o ho) }

def loop : World → St → List Res → List (List Nat) → Except Err (World × St × List Res)
  | w, st, res, [] => .ok (w, st, res)
  | w, st, res, newP :: rest =>
    match ppRound w st res newP with
    | .error e => .error e.1
    | .ok (w1, st1, dec) =>
      match w1.execTick dec.sus dec.asgs with
      | .error e => .error e.1
      | .ok (w2, res2) => loop w2 st1 res2 rest

/-- the priority-pool scheduler with multi-operator containers drives any run to its last tick without raising, for every sequence of arrival batches
in which no pipeline arrives twice and every arriving pipeline is untouched (`PPInv … arrivals.flatten`) -/
theorem run_never_raises : ∀ (arrivals : List (List Nat)) (w : World) (st : St) (cs : List Ctr), PPInv w st cs arrivals.flatten →
    ∃ w' st' cs', loop w st (cs.map mkRes) arrivals = .ok (w', st', cs'.map mkRes) ∧ PPInv w' st' cs' [] := by
  intro arrivals
  induction arrivals with
  | nil => intro w st cs inv; exact ⟨w, st, cs, rfl, by simpa using inv⟩
  | cons newP rest ih =>
    intro w st cs inv
    simp only [List.flatten_cons] at inv
    obtain ⟨w1, st1, dec, w2, cs2, h1, h2, inv2⟩ := pp_tick_never_raises w st cs newP rest.flatten inv
    obtain ⟨w', st', cs', ho, inv'⟩ := ih w2 st1 cs2 inv2
    exact ⟨w', st', cs', by unfold loop; rw [h1]; simp only; rw [h2]; exact ho, inv'⟩

end Eudoxia.PP
