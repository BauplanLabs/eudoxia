import EudoxiaModel.Proofs.Dead
/-! The record of containers through the suspension phases: a container whose write-out ends hands its whole unfinished suffix back as PENDING. -/
namespace Eudoxia
open OpState Extracted

/-- the same container at a later moment of its write-out: `Ctr.Ident` with `curOpIdx` and `err`, without `pool` -/
def Same (c c' : Ctr) : Prop :=
  c'.cid = c.cid ∧ c'.ops = c.ops ∧ c'.curOpIdx = c.curOpIdx ∧ c'.cpu = c.cpu ∧ c'.ram = c.ram ∧ c'.prio = c.prio ∧ c'.err = c.err

theorem Same.refl (c : Ctr) : Same c c := ⟨rfl, rfl, rfl, rfl, rfl, rfl, rfl⟩

theorem Same.trans {a b c : Ctr} (h1 : Same a b) (h2 : Same b c) : Same a c := by
  obtain ⟨a1, a2, a3, a4, a5, a6, a7⟩ := h1
  obtain ⟨b1, b2, b3, b4, b5, b6, b7⟩ := h2
  exact ⟨b1.trans a1, b2.trans a2, b3.trans a3, b4.trans a4, b5.trans a5, b6.trans a6, b7.trans a7⟩

theorem Same.ops {c c' : Ctr} (h : Same c c') : c'.ops = c.ops := h.2.1

theorem Same.unfinished {c c' : Ctr} (h : Same c c') : c'.unfinished = c.unfinished := by
  obtain ⟨_, hops, hidx, _⟩ := h
  unfold Ctr.unfinished; rw [hops, hidx]

theorem Same.suspLeft (c : Ctr) (k : Int) : Same c { c with suspLeft := k } := ⟨rfl, rfl, rfl, rfl, rfl, rfl, rfl⟩

/-- the unfinished operators of a container whose write-out has just ended: all PENDING -/
def Parked (s : Store) (c : Ctr) : Prop := ∀ o ∈ c.unfinished, s.stOf o = pending

theorem suspendTick_parks {w w' : Store} {c c' : Ctr} (h : c.suspendTick w = .ok (w', c')) :
    c'.suspLeft = 0 → Parked w' c' := by
  obtain ⟨rfl, ⟨_, hw⟩ | ⟨hnz, _⟩⟩ := suspendTick_ok h
  · exact fun _ => (transAll_stOf hw).1
  · exact fun hz => absurd hz hnz

structure WrittenOut (l : List Ctr) (w : Store) (c' : Ctr) : Prop where
  fin : Fin w c'
  live : c'.completed = false
  parked : c'.suspLeft = 0 → Parked w c'
  src : ∃ c ∈ l, Same c c'

theorem WrittenOut.frame {l : List Ctr} {w w' : Store} {c : Ctr} (h : WrittenOut l w c) (st : Steps w w')
    (hfr : ∀ o ∈ c.unfinished, w'.stOf o = w.stOf o) : WrittenOut l w' c :=
  ⟨fin_frame h.fin st hfr, h.live, fun hz o ho => by rw [hfr o ho]; exact h.parked hz o ho, h.src⟩

theorem suspTickList_fin (cfg : Cfg) {l l' : List Ctr} {w w' : Store} (h : suspTickList w l = .ok (w', l'))
    (hinv : ∀ c ∈ l, CtrInv cfg c ∧ c.completed = false) (hnd : (allUnf l).Nodup) (hfin : ∀ c ∈ l, Fin w c) :
    (∀ c' ∈ l', WrittenOut l w' c') ∧ allUnf l' = allUnf l ∧ StepsP (fun r _ => r ∈ allUnf l) w w' := by
  have hp := suspTickList_pass h
  have hunf : allUnf l' = allUnf l := allUnf_eq_of_forall₂ (hp.forall₂.imp (fun c c' hc => by
    obtain ⟨_, _, hs⟩ := hc
    rw [(suspendTick_ok hs).1]; rfl))
  obtain ⟨a1, _, a3⟩ := hp.fin (F := WrittenOut l) WrittenOut.frame
    (fun {_ _ c c1} hc hs f => by
      obtain ⟨ci, cn⟩ := hinv c hc
      obtain ⟨e, st⟩ := suspendTick_live hs
      have hpk := suspendTick_parks hs
      rw [e] at hpk ⊢
      exact ⟨⟨(f.of_live cn st.steps).suspLeft _, cn, hpk, c, hc, Same.suspLeft c _⟩, .refl _, st.mono (fun _ _ hx => hx.1)⟩)
    hnd hfin
  exact ⟨a1, hunf, a3⟩

theorem ownP_eq_allUnf {cfg : Cfg} {w : Store} {p : Pool} (hl : PoolLive cfg w p) : ownP p = allUnf p.active ++ allUnf p.suspending := by
  simp only [ownP, own_append]
  rw [own_eq_allUnf (fun c hc => hl.nc c (List.mem_append_left _ hc)), own_eq_allUnf (fun c hc => hl.nc c (List.mem_append_right _ hc))]

theorem doSuspends_same {cfg : Cfg} {l : List Nat} {w w' : Store} {p p' : Pool} (h : doSuspends cfg w p l = .ok (w', p')) :
    ∀ c' ∈ p'.suspending, c' ∈ p.suspending ∨ ∃ c ∈ p.active, c.cid ∈ l ∧ ∃ k, c' = { c with suspLeft := k } := by
  obtain ⟨_, _, moved, hsusp, hmoved⟩ := doSuspends_lists h
  intro c' hc'
  rw [hsusp] at hc'
  rcases List.mem_append.mp hc' with hc' | hc'
  · exact .inl hc'
  · obtain ⟨k, hk, c, hc, rfl, _, _, hs⟩ := hmoved.mem_right hc'
    exact .inr ⟨c, hc, hk, _, (suspend_ok hs).2⟩

theorem doSuspends_fin {cfg : Cfg} {l : List Nat} {w w' : Store} {p p' : Pool} (h : doSuspends cfg w p l = .ok (w', p'))
    (hl : PoolLive cfg w p) (hfin : ∀ c ∈ p.active ++ p.suspending, Fin w c) : ∀ c ∈ p'.active ++ p'.suspending, Fin w' c := by
  have st := doSuspends_steps h
  have stays : ∀ x ∈ p.active ++ p.suspending, Fin w' x := fun x hx => (hfin x hx).of_live (hl.nc x hx) st
  intro c' hc'
  rcases List.mem_append.mp hc' with hc' | hc'
  · rw [(doSuspends_lists h).2.1] at hc'
    exact stays c' (List.mem_append_left _ (List.mem_filter.mp hc').1)
  · rcases doSuspends_same h c' hc' with hold | ⟨c, hc, _, k, rfl⟩
    · exact stays c' (List.mem_append_right _ hold)
    · exact (stays c (List.mem_append_left _ hc)).suspLeft k

/-- `cs` are the containers that ended, `js` those whose write-out ended in this tick: they join the suspended list with their whole unfinished
suffix PENDING -/
theorem poolRun_finS {cfg : Cfg} {w w' : Store} {p p' : Pool} {n : Nat} {res : List Res} (pinv : PoolInv p n) (m : MemOK p) (rd : PoolReady cfg w p)
    (hfin : ∀ c ∈ p.active ++ p.suspending, Fin w c) (h : poolRun cfg w p = .ok (w', p', res)) :
    (∀ c ∈ p'.active ++ p'.suspending, Fin w' c) ∧
    (∃ cs js, res = cs.map mkRes ∧ p'.suspended = p.suspended ++ js ∧ (∀ c ∈ cs, Fin w' c ∧ c.completed = true) ∧
      (∀ c ∈ js, Fin w' c ∧ c.completed = false ∧ Parked w' c ∧ ∃ c0 ∈ p.suspending, Same c0 c) ∧ (allUnf cs ++ allUnf js).Sublist (ownP p)) ∧
    (∀ c ∈ p'.suspending, ∃ c0 ∈ p.suspending, Same c0 c) := by
  have hl := rd.live
  have hown := ownP_eq_allUnf hl
  obtain ⟨hndA, hndS, hdisj⟩ := List.nodup_append.mp (show (allUnf p.active ++ allUnf p.suspending).Nodup by rw [← hown]; exact hl.nd)
  have hinvA : ∀ c ∈ p.active, CtrInv cfg c ∧ (c.completed = false → c.frozen = false) :=
    fun c hc => ⟨hl.inv c (List.mem_append_left _ hc), fun _ => (m.ok c hc).2.1⟩
  have hownA : own p.active = allUnf p.active := own_eq_allUnf (fun c hc => hl.nc c (List.mem_append_left _ hc))
  obtain ⟨w3, p3, w4, act4, cons4, p5, h3, h4, h5, rfl, rfl⟩ := poolRun_ok h
  obtain ⟨l3, hl3, rfl⟩ := suspTickAll_ok h3
  have h4 : tickAll cfg w3 p.active p.consumed = .ok (w4, act4, cons4) := h4
  obtain ⟨s1, s2, s3⟩ := suspTickList_fin cfg hl3 (fun c hc => ⟨hl.inv c (List.mem_append_right _ hc), hl.nc c (List.mem_append_right _ hc)⟩)
    hndS (fun c hc => hfin c (List.mem_append_right _ hc))
  have hfr3 : ∀ o ∈ allUnf p.active, w3.stOf o = w.stOf o := fun o ho => s3.frame o (fun _ hx => hdisj o ho o hx rfl)
  have hrd3 : ReadyAll cfg w3 p.active := readyAll_frame rd.act s3.steps (fun o ho => hfr3 o (hownA ▸ ho))
  obtain ⟨a1, a2, a3⟩ := tickAll_fin h4 hinvA hndA
    (fun c hc => (hfin c (List.mem_append_left _ hc)).of_live (hl.nc c (List.mem_append_left _ hc)) s3.steps)
  have hcn4 : (cids act4).Nodup := by rw [cids_of_ident (tickAll_ident h4)]; exact pinv.activeNodup
  -- `h5` first: it fixes the pool that the other hypotheses are about
  have hoom := oomKiller_fin cfg (h := h5)
  obtain ⟨b1, b2, b3⟩ := hoom hcn4 (tickAll_static h4 hrd3 hinvA m.ok (hownA ▸ hndA)) (a2.nodup hndA) a1
  obtain ⟨_, _, ks, ksd⟩ := oomKiller_ran h5
  obtain ⟨f1, fsg, fsd, fres, _⟩ := collect_spec p5
  simp only at b1 b2 b3 ks ksd
  have hAfoot : StepsP (fun r _ => r ∈ allUnf p.active) w3 w' := a3.trans (b3.mono (fun r _ hx => a2.subset hx))
  have hfinL3 : ∀ c ∈ l3, WrittenOut p.suspending w' c := fun c hc =>
    (s1 c hc).frame hAfoot.steps (fun o ho => hAfoot.frame o (fun _ hx => hdisj o hx o (s2 ▸ mem_allUnf hc ho) rfl))
  refine ⟨fun c hc => ?_, ⟨p5.active.filter (·.completed), l3.filter (fun c => c.suspLeft == 0), fres, by rw [fsd, ksd], fun c hc => ?_,
    fun c hc => ?_, ?_⟩, fun c hc => ?_⟩
  · rcases List.mem_append.mp hc with hc | hc
    · rw [f1] at hc
      exact b1 c (List.mem_filter.mp hc).1
    · rw [fsg, ks] at hc
      exact (hfinL3 c (List.mem_filter.mp hc).1).fin
  · exact ⟨b1 c (List.mem_filter.mp hc).1, (List.mem_filter.mp hc).2⟩
  · obtain ⟨hc1, hc2⟩ := List.mem_filter.mp hc
    have x := hfinL3 c hc1
    exact ⟨x.fin, x.live, x.parked (eq_of_beq hc2), x.src⟩
  · rw [hown]
    exact ((allUnf_sublist List.filter_sublist).trans (b2 ▸ a2)).append (s2 ▸ allUnf_sublist List.filter_sublist)
  · rw [fsg, ks] at hc
    exact (hfinL3 c (List.mem_filter.mp hc).1).src

def WroteFrom (q : Pool) (susp : List Nat) (c : Ctr) : Prop := ∃ c0, (c0 ∈ q.suspending ∨ (c0 ∈ q.active ∧ c0.cid ∈ susp)) ∧ Same c0 c

def World.WroteFrom (w : World) (sus : List (Nat × Nat)) (c : Ctr) : Prop :=
  ∃ c0, (∃ q ∈ w.pools, c0 ∈ q.suspending ∨ (c0 ∈ q.active ∧ c0.cid ∈ sus.map (·.2))) ∧ Same c0 c

theorem poolTick_finS {cfg : Cfg} {w w' : Store} {p p' : Pool} {n n' : Nat} {cm : Cmds} {res : List Res}
    (g : PoolGoodMem cfg p n) (rd : PoolReadyF cfg w p) (ha : AsgsReady w cm.asgs) (hs : cm.susp.Nodup)
    (hnd : (ownP p ++ cm.asgs.flatMap (·.ops)).Nodup) (hfin : ∀ c ∈ p.active ++ p.suspending, Fin w c)
    (h : poolTick cfg w p n cm = .ok (w', p', n', res)) :
    (∀ c ∈ p'.active ++ p'.suspending, Fin w' c) ∧
    (∃ cs js, res = cs.map mkRes ∧ p'.suspended = p.suspended ++ js ∧ (∀ c ∈ cs, Fin w' c ∧ c.completed = true) ∧
      (∀ c ∈ js, Fin w' c ∧ c.completed = false ∧ Parked w' c ∧ WroteFrom p cm.susp c) ∧
      (allUnf cs ++ allUnf js).Nodup ∧ ∀ o ∈ allUnf cs ++ allUnf js, o ∈ ownP p ++ cm.asgs.flatMap (·.ops)) ∧
    (∀ c ∈ p'.suspending, WroteFrom p cm.susp c) := by
  obtain ⟨w1, p1', p2, hv, hs1, hg, hst, hr⟩ := poolTick_ok h
  obtain ⟨p1, hd, hact1, hsusg1, hsusd1⟩ := susPhase_lists hs1
  obtain ⟨_, _, hs1', r1', sh1, fr1⟩ := susPhase_succeeds g rd hs hv
  rw [hs1] at hs1'
  cases hs1'
  have g2 := goodMem_phases.start (goodMem_phases.sus g hs1) hg hst
  have hfin1 : ∀ c ∈ p1'.active ++ p1'.suspending, Fin w1 c := by
    rw [hact1, hsusg1]
    exact doSuspends_fin hd rd.rd.live hfin
  have ha1 : AsgsReady w1 cm.asgs := ha.frame (susPhase_steps hs1) fun a haa r hr' =>
    fr1 r fun hx => (List.nodup_append.mp hnd).2.2 r hx r (List.mem_flatMap.mpr ⟨a, haa, hr'⟩) rfl
  have hnd1 : (ownP p1' ++ cm.asgs.flatMap (·.ops)).Nodup := (sh1.append (.refl _)).nodup hnd
  have r2 := startAll_ready hst r1' ha1 hnd1
  obtain ⟨_, hperm⟩ := startAll_live hst r1'.rd.live
    (fun a haa => ⟨(ha1 a haa).2.1, fun r hr' => ⟨((ha1 a haa).2.2.1 r hr').1, by rw [((ha1 a haa).2.2.1 r hr').2.1]; exact Or.inl rfl⟩⟩) hnd1
  obtain ⟨a1, ⟨cs, js, e, esd, fc, fj, hsub⟩, a4⟩ := poolRun_finS g2.1.1 g2.2 r2.rd (startAll_fin hst hfin1) hr
  have hin : ∀ o, o ∈ ownP p2 → o ∈ ownP p ++ cm.asgs.flatMap (·.ops) := by
    intro o ho
    rcases List.mem_append.mp (hperm.subset ho) with h' | h'
    · exact List.mem_append_left _ (sh1.mem h')
    · exact List.mem_append_right _ h'
  have hback : ∀ c0 ∈ p2.suspending, ∀ c, Same c0 c → WroteFrom p cm.susp c := by
    intro c0 hc0 c hs0
    rw [(startAll_lists hst).1, hsusg1] at hc0
    rcases doSuspends_same hd c0 hc0 with h00 | ⟨c00, h00, k00, k, rfl⟩
    · exact ⟨c0, .inl h00, hs0⟩
    · exact ⟨c00, .inr ⟨h00, k00⟩, (Same.suspLeft c00 k).trans hs0⟩
  refine ⟨a1, ⟨cs, js, e, by rw [esd, (startAll_lists hst).2.1, hsusd1, (doSuspends_lists hd).1], fc, fun c hc => ?_,
    hsub.nodup (hperm.nodup_iff.mpr hnd1), fun o ho => hin o (hsub.subset ho)⟩, fun c hc => ?_⟩
  · obtain ⟨x1, x2, x3, c0, hc0, hs0⟩ := fj c hc
    exact ⟨x1, x2, x3, hback c0 hc0 c hs0⟩
  · obtain ⟨c0, hc0, hs0⟩ := a4 c hc
    exact hback c0 hc0 c hs0

theorem perm_append_swap {α : Type} (A B C D : List α) : ((A ++ B) ++ (C ++ D)).Perm ((A ++ C) ++ (B ++ D)) := by
  rw [List.append_assoc, List.append_assoc]
  exact List.Perm.append_left A (List.perm_append_comm_assoc B C D)

/-- The state of the loop over the pools between two pool ticks: `S` holds of what the pools owned or were handed when the tick began, `old` of the
containers suspended before it, `pre` of those that were being written out or are named by a suspension request. -/
structure LoopFin (asgs : List Asg) (sus : List (Nat × Nat)) (S : Nat → Prop) (old pre : Ctr → Prop)
    (s : Store) (done todo : List Pool) (cs js : List Ctr) : Prop where
  fin : ∀ p ∈ done ++ todo, ∀ c ∈ p.active ++ p.suspending, Fin s c
  own : ∀ p ∈ todo, ∀ o ∈ ownP p, S o
  oldT : ∀ p ∈ todo, ∀ c ∈ p.suspended, old c
  oldD : ∀ p ∈ done, ∀ c ∈ p.suspended, old c ∨ c ∈ js
  preT : ∀ p ∈ todo, ∀ c0, (c0 ∈ p.suspending ∨ (c0 ∈ p.active ∧ c0.cid ∈ sus.map (·.2))) → pre c0
  preD : ∀ p ∈ done, ∀ c ∈ p.suspending, ∃ c0, pre c0 ∧ Same c0 c
  ended : ∀ c ∈ cs, Fin s c ∧ c.completed = true
  parked : ∀ c ∈ js, Fin s c ∧ c.completed = false ∧ Parked s c ∧ (∃ c0, pre c0 ∧ Same c0 c) ∧ ∃ p ∈ done, c ∈ p.suspended
  nd : (allUnf cs ++ allUnf js).Nodup
  out : ∀ o ∈ allUnf cs ++ allUnf js, S o ∧ o ∉ todo.flatMap ownP ++ opsOf (pendFor asgs done.length)

theorem LoopFin.step {cfg : Cfg} {asgs : List Asg} {sus : List (Nat × Nat)} {S : Nat → Prop} {old pre : Ctr → Prop}
    (hsus : ∀ i, ((sus.filter (·.1 == i)).map (·.2)).Nodup) (hSa : ∀ o ∈ opsOf asgs, S o)
    {s s1 : Store} {n n1 : Nat} {done rest : List Pool} {p p1 : Pool} {cs js : List Ctr} {r : List Res}
    (hJ : PoolsReady cfg asgs s n done (p :: rest)) (L : LoopFin asgs sus S old pre s done (p :: rest) cs js)
    (hpt : poolTick cfg s p n (cmdsFor done.length sus asgs) = .ok (s1, p1, n1, r)) :
    PoolsReady cfg asgs s1 n1 (done ++ [p1]) rest ∧
    ∃ csk jsk, r = csk.map mkRes ∧ LoopFin asgs sus S old pre s1 (done ++ [p1]) rest (cs ++ csk) (js ++ jsk) := by
  have hp : p ∈ done ++ p :: rest := List.mem_append_right _ List.mem_cons_self
  obtain ⟨gp, lp⟩ := hJ.live.pools p hp
  obtain ⟨ha, hnd⟩ := poolsReady_head (sus := sus) hJ
  have st := poolTick_steps_ok hpt
  obtain ⟨_, _, fr⟩ := poolTick_live gp lp (poolsLive_head (sus := sus) hJ.live).2.1 hnd hpt
  have r1 := poolTick_ready_of_ok gp (hJ.rdy p hp) ha (hsus done.length) hnd hpt
  obtain ⟨a1, ⟨csk, jsk, ek, esd, fk, fjk, ndk, ink⟩, a5⟩ := poolTick_finS gp (hJ.rdy p hp) ha (hsus done.length) hnd (L.fin p hp) hpt
  have hearlier : ∀ o ∈ allUnf cs ++ allUnf js, s1.stOf o = s.stOf o :=
    fun o ho => fr o (not_mem_todo_split (L.out o ho).2).1
  have hreq : ∀ c, WroteFrom p (cmdsFor done.length sus asgs).susp c → ∃ c0, pre c0 ∧ Same c0 c := by
    rintro c ⟨c0, hc0, hs0⟩
    refine ⟨c0, L.preT p List.mem_cons_self c0 (hc0.imp_right (fun h => ⟨h.1, ?_⟩)), hs0⟩
    obtain ⟨x, hx, hxe⟩ := List.mem_map.mp h.2
    exact List.mem_map.mpr ⟨x, (List.mem_filter.mp hx).1, hxe⟩
  have hperm := perm_append_swap (allUnf cs) (allUnf csk) (allUnf js) (allUnf jsk)
  refine ⟨poolsReady_step hJ hpt r1, csk, jsk, ek, ?_⟩
  refine { fin := forall_pools_step (fun q hq c hc => (L.fin q (mem_others hq) c hc).of_live ((hJ.live.pools q (mem_others hq)).2.nc c hc) st) a1, own := fun q hq => L.own q (List.mem_cons_of_mem _ hq),
           oldT := fun q hq => L.oldT q (List.mem_cons_of_mem _ hq), oldD := fun q hq c hc => ?_,
           preT := fun q hq => L.preT q (List.mem_cons_of_mem _ hq), preD := fun q hq c hc => ?_,
           ended := fun c hc => ?_, parked := fun c hc => ?_, nd := ?_, out := fun o ho => ?_ }
  · rcases List.mem_append.mp hq with hq | hq
    · exact (L.oldD q hq c hc).imp_right (List.mem_append_left _)
    · rw [List.mem_singleton.mp hq, esd] at hc
      rcases List.mem_append.mp hc with hc | hc
      · exact .inl (L.oldT p List.mem_cons_self c hc)
      · exact .inr (List.mem_append_right _ hc)
  · rcases List.mem_append.mp hq with hq | hq
    · exact L.preD q hq c hc
    · rw [List.mem_singleton.mp hq] at hc
      exact hreq c (a5 c hc)
  · rcases List.mem_append.mp hc with hc | hc
    · exact ⟨fin_frame (L.ended c hc).1 st (fun o ho => hearlier o (List.mem_append_left _ (mem_allUnf hc ho))), (L.ended c hc).2⟩
    · exact fk c hc
  · rcases List.mem_append.mp hc with hc | hc
    · obtain ⟨x1, x2, x3, x4, q, hq, hcq⟩ := L.parked c hc
      have hfr : ∀ o ∈ c.unfinished, s1.stOf o = s.stOf o := fun o ho => hearlier o (List.mem_append_right _ (mem_allUnf hc ho))
      exact ⟨fin_frame x1 st hfr, x2, fun o ho => by rw [hfr o ho]; exact x3 o ho, x4, q, List.mem_append_left _ hq, hcq⟩
    · obtain ⟨x1, x2, x3, x4⟩ := fjk c hc
      exact ⟨x1, x2, x3, hreq c x4, p1, List.mem_append_right _ List.mem_cons_self, by rw [esd]; exact List.mem_append_right _ hc⟩
  · rw [allUnf_append, allUnf_append, hperm.nodup_iff, List.nodup_append]
    exact ⟨L.nd, ndk, fun a ha' b hb e => (not_mem_todo_split (L.out a ha').2).1 (e ▸ ink b hb)⟩
  · rw [List.length_append, List.length_singleton]
    rw [allUnf_append, allUnf_append] at ho
    rcases List.mem_append.mp (hperm.subset ho) with ho' | ho'
    · exact ⟨(L.out o ho').1, (not_mem_todo_split (L.out o ho').2).2⟩
    · refine ⟨?_, poolsLive_mine hJ.live (ink o ho')⟩
      rcases List.mem_append.mp (ink o ho') with h' | h'
      · exact L.own p List.mem_cons_self o h'
      · obtain ⟨a, haa, hoa⟩ := List.mem_flatMap.mp h'
        exact hSa o (List.mem_flatMap.mpr ⟨a, (List.mem_filter.mp haa).1, hoa⟩)

theorem execPools_finS {cfg : Cfg} {sus : List (Nat × Nat)} {asgs : List Asg} {S : Nat → Prop} {old pre : Ctr → Prop}
    (hsus : ∀ i, ((sus.filter (·.1 == i)).map (·.2)).Nodup) (hSa : ∀ o ∈ opsOf asgs, S o)
    {s : Store} {n : Nat} {done todo : List Pool} {res : List Res} {s' : Store} {ps : List Pool} {n' : Nat} {res' : List Res} {cs js : List Ctr}
    (h : execPools cfg sus asgs s n done todo res = .ok (s', ps, n', res')) (hJ : PoolsReady cfg asgs s n done todo)
    (L : LoopFin asgs sus S old pre s done todo cs js) (hres : res = cs.map mkRes) :
    ∃ cs' js', res' = cs'.map mkRes ∧ LoopFin asgs sus S old pre s' ps [] cs' js' := by
  induction h using execPools_induct generalizing cs js with
  | nil => exact ⟨cs, js, hres, L⟩
  | step _ hpt _ ih =>
    obtain ⟨hJ1, csk, jsk, ek, L1⟩ := L.step hsus hSa hJ hpt
    exact ih hJ1 L1 (by rw [hres, ek, List.map_append])

end Eudoxia
