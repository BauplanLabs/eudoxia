import EudoxiaModel.Model.Sched.Priority
import EudoxiaModel.Proofs.NaiveSafe
import EudoxiaModel.Proofs.ExecSteps
import EudoxiaModel.Proofs.WorldLive
import EudoxiaModel.Proofs.TickFrame
/-! The loop that `prQueue` and `ppQueue` both are: walk a queue, ask `pick` for a pool and `size` for the container's size, build the assignment.
    What a run that ended well consists of, when a run ends well, and what the three runs of a round leave waiting. -/
namespace Eudoxia.Prio
open Eudoxia OpState Extracted

/-- `none` = the scheduler's assertion fails, `some none` = no pool, stop -/
abbrev Pick := List Snap → Option (Option Nat)

/-- `none` = the job leaves the queue without a container -/
abbrev Sizer := Snap → Job → Option (Nat × Nat)

/-- `g` for generic in `pick` and `size`; returns the number of jobs consumed from the head of the queue -/
def gQueue (pick : Pick) (size : Sizer) :
    World → List Job → List Snap → Nat → List Asg → Except SErr (World × List Snap × Nat × List Asg)
  | w, [], sn, k, acc => .ok (w, sn, k, acc)
  | w, job :: rest, sn, k, acc =>
    match pick sn with
    | none => .error (.schedAssert, w)
    | some none => .ok (w, sn, k, acc)
    | some (some pool) =>
      match size (sn.getD pool default) job with
      | none => gQueue pick size w rest sn (k + 1) acc
      | some (jc, jr) =>
        match mkA w job.ops jc jr job.prio pool with
        | .error e => .error e
        | .ok (w', a) => gQueue pick size w' rest (snapSub sn pool jc jr) (k + 1) (acc ++ [a])

/-- `priority` takes the pool with the most free RAM and asserts nothing -/
def prPick : Pick := fun sn => some (bestPool sn)

/-- priority-pool works on a fixed pool and asserts that its free CPU is zero exactly when its free RAM is -/
def ppPick (pool : Nat) : Pick := fun sn =>
  if (sn.getD pool default).availR == 0 || (sn.getD pool default).availC == 0 then
    if (sn.getD pool default).availR == 0 && (sn.getD pool default).availC == 0 then some none else none
  else some (some pool)

theorem ppPick_some {pool p : Nat} {sn : List Snap} (h : ppPick pool sn = some (some p)) :
    p = pool ∧ (sn.getD pool default).availR ≠ 0 ∧ (sn.getD pool default).availC ≠ 0 := by
  unfold ppPick at h
  split at h
  · split at h <;> cases h
  · rename_i hz
    cases h
    simp only [Bool.or_eq_true, beq_iff_eq, not_or] at hz
    exact ⟨rfl, hz⟩

theorem prQueue_eq (q : Nat) (jobs : List Job) : ∀ (w : World) (sn : List Snap) (k : Nat) (acc : List Asg),
    prQueue q w jobs sn k acc = gQueue prPick (prSize q) w jobs sn k acc := by
  induction jobs with
  | nil => intro w sn k acc; rfl
  | cons job rest ih =>
    intro w sn k acc
    rw [prQueue, gQueue, prPick]
    cases bestPool sn with
    | none => rfl
    | some pool =>
      simp only
      cases prSize q (sn.getD pool default) job with
      | none => exact ih ..
      | some sz =>
        obtain ⟨jc, jr⟩ := sz
        simp only
        cases mkA w job.ops jc jr job.prio pool <;> simp only [ih]

theorem ppQueue_eq (q pool : Nat) (jobs : List Job) : ∀ (w : World) (sn : List Snap) (k : Nat) (acc : List Asg),
    ppQueue q pool w jobs sn k acc = gQueue (ppPick pool) (ppSize q) w jobs sn k acc := by
  induction jobs with
  | nil => intro w sn k acc; rfl
  | cons job rest ih =>
    intro w sn k acc
    rw [ppQueue, gQueue, ppPick]
    by_cases hz : ((sn.getD pool default).availR == 0 || (sn.getD pool default).availC == 0) = true
    · rw [if_pos hz, if_pos hz]
      split <;> rfl
    · simp only [if_neg hz]
      cases ppSize q (sn.getD pool default) job with
      | none => exact ih ..
      | some sz =>
        obtain ⟨jc, jr⟩ := sz
        simp only
        cases mkA w job.ops jc jr job.prio pool <;> simp only [ih]

theorem snapSub_length (sn : List Snap) (k cpu ram : Nat) : (snapSub sn k cpu ram).length = sn.length := by simp [snapSub]

variable {pick : Pick} {size : Sizer} {I : List Snap → Prop} {JP : World → Job → Prop}

/-- a run that ended well: the jobs it went through, the assignments made for them (in queue order; a job without one was dropped), the snapshots
    before and after -/
inductive QRun (pick : Pick) (size : Sizer) :
    List Snap → List Job → List Asg → List Snap → Prop
  | nil (sn : List Snap) : QRun pick size sn [] [] sn
  | skip {sn sn' : List Snap} {pool : Nat} {job : Job} {js : List Job} {as : List Asg} : pick sn = some (some pool) →
      size (sn.getD pool default) job = none → QRun pick size sn js as sn' → QRun pick size sn (job :: js) as sn'
  | place {sn sn' : List Snap} {pool jc jr : Nat} {job : Job} {js : List Job} {as : List Asg} : pick sn = some (some pool) →
      size (sn.getD pool default) job = some (jc, jr) → QRun pick size (snapSub sn pool jc jr) js as sn' →
      QRun pick size sn (job :: js) ({ ops := job.ops, cpu := jc, ram := jr, prio := job.prio, pool := pool } :: as) sn'

theorem gQueue_spec {jobs : List Job} :
    ∀ {w : World} {sn : List Snap} {k : Nat} {acc : List Asg} {w' : World} {sn' : List Snap} {k' : Nat} {out : List Asg},
    gQueue pick size w jobs sn k acc = .ok (w', sn', k', out) →
    ∃ m new, out = acc ++ new ∧ k' = k + m ∧ m ≤ jobs.length ∧ (m < jobs.length → pick sn' = some none) ∧
      Built w new w' ∧ QRun pick size sn (jobs.take m) new sn' := by
  induction jobs with
  | nil =>
    intro w sn k acc w' sn' k' out h
    cases h
    exact ⟨0, [], by simp, rfl, Nat.le_refl _, fun h => absurd h (Nat.lt_irrefl _), .nil _, .nil _⟩
  | cons job rest ih =>
    intro w sn k acc w' sn' k' out h
    rw [gQueue] at h
    split at h
    · cases h
    · cases h
      exact ⟨0, [], by simp, rfl, Nat.zero_le _, fun _ => ‹_›, .nil _, .nil _⟩
    · rename_i pool hp
      split at h
      · obtain ⟨m, new, e1, e2, e3, e4, b, r⟩ := ih h
        exact ⟨m + 1, new, e1, by rw [e2, Nat.add_right_comm, Nat.add_assoc], Nat.succ_le_succ e3, fun hm => e4 (Nat.lt_of_succ_lt_succ hm), b, .skip hp ‹_› r⟩
      · split at h
        · cases h
        · rename_i hmk
          obtain ⟨rfl, hm⟩ := mkA_ok hmk
          obtain ⟨m, new, e1, e2, e3, e4, b, r⟩ := ih h
          exact ⟨m + 1, _ :: new, by rw [e1, List.append_assoc]; rfl, by rw [e2, Nat.add_right_comm, Nat.add_assoc], Nat.succ_le_succ e3,
            fun hm => e4 (Nat.lt_of_succ_lt_succ hm), .cons hm b, .place hp ‹_› r⟩

theorem gQueue_spec0 {jobs : List Job} {w w' : World} {sn sn' : List Snap} {m : Nat} {out : List Asg}
    (h : gQueue pick size w jobs sn 0 [] = .ok (w', sn', m, out)) :
    m ≤ jobs.length ∧ (m < jobs.length → pick sn' = some none) ∧ Built w out w' ∧ QRun pick size sn (jobs.take m) out sn' := by
  obtain ⟨m', new, e, rfl, hm, hstop, b, r⟩ := gQueue_spec h
  rw [List.nil_append] at e
  subst e
  rw [Nat.zero_add]
  exact ⟨hm, hstop, b, r⟩

theorem gQueue_built {jobs : List Job} {w w' : World} {sn sn' : List Snap} {m : Nat} {out : List Asg}
    (h : gQueue pick size w jobs sn 0 [] = .ok (w', sn', m, out)) : Built w out w' := (gQueue_spec0 h).2.2.1

theorem gQueue_qrun {jobs : List Job} {w w' : World} {sn sn' : List Snap} {m : Nat} {out : List Asg}
    (h : gQueue pick size w jobs sn 0 [] = .ok (w', sn', m, out)) : QRun pick size sn (jobs.take m) out sn' := (gQueue_spec0 h).2.2.2

theorem QRun.append {sn sn' sn'' : List Snap} {js js' : List Job} {as as' : List Asg}
    (h : QRun pick size sn js as sn') (h' : QRun pick size sn' js' as' sn'') : QRun pick size sn (js ++ js') (as ++ as') sn'' := by
  induction h with
  | nil => exact h'
  | skip hp hs _ ih => exact .skip hp hs (ih h')
  | place hp hs _ ih => exact .place hp hs (ih h')

theorem QRun.length {sn sn' : List Snap}
    {js : List Job} {as : List Asg} (h : QRun pick size sn js as sn') : sn'.length = sn.length := by
  induction h with
  | nil => rfl
  | skip _ _ _ ih => exact ih
  | place _ _ _ ih => rw [ih, snapSub_length]

theorem QRun.sublist {sn sn' : List Snap}
    {js : List Job} {as : List Asg} (h : QRun pick size sn js as sn') :
    (as.map (fun a => (a.ops, a.prio))).Sublist (js.map (fun j => (j.ops, j.prio))) := by
  induction h with
  | nil => exact .slnil
  | skip _ _ _ ih => exact .cons _ ih
  | place _ _ _ ih => exact .cons_cons _ ih

theorem QRun.job {sn sn' : List Snap}
    {js : List Job} {as : List Asg} (h : QRun pick size sn js as sn') {a : Asg} (ha : a ∈ as) :
    ∃ j ∈ js, a.ops = j.ops ∧ a.prio = j.prio := by
  obtain ⟨j, hj, e⟩ := List.mem_map.mp (h.sublist.subset (List.mem_map_of_mem (f := fun a => (a.ops, a.prio)) ha))
  exact ⟨j, hj, (congrArg Prod.fst e).symm, (congrArg Prod.snd e).symm⟩

theorem QRun.pool {R : Nat → Prop} {n : Nat}
    (hR : ∀ sn p, sn.length = n → pick sn = some (some p) → R p) {sn sn' : List Snap} {js : List Job} {as : List Asg}
    (h : QRun pick size sn js as sn') (hn : sn.length = n) : ∀ a ∈ as, R a.pool := by
  induction h with
  | nil => intro a ha; cases ha
  | skip _ _ _ ih => exact ih hn
  | place hp _ _ ih =>
    intro a ha
    rcases List.mem_cons.mp ha with rfl | ha
    · exact hR _ _ hn hp
    · exact ih (by rw [snapSub_length]; exact hn) a ha

structure JobPred (JP : World → Job → Prop) : Prop where
  ops : ∀ w j, JP w j → j.ops ≠ [] ∧ j.ops.Nodup ∧ ∀ o ∈ j.ops, o < w.store.st.size ∧ w.store.stOf o ∈ assignable
  keep : ∀ w w' j, Steps w.store w'.store → (∀ o ∈ j.ops, w'.store.stOf o = w.store.stOf o) → JP w j → JP w' j

structure Suits (pick : Pick) (size : Sizer) (I : List Snap → Prop) (JP : World → Job → Prop) : Prop where
  picks : ∀ sn, I sn → pick sn ≠ none
  sized : ∀ w j sn p jc jr, JP w j → I sn → pick sn = some (some p) → size (sn.getD p default) j = some (jc, jr) →
    0 < jc ∧ 0 < jr ∧ I (snapSub sn p jc jr)

theorem gQueue_succeeds (hs : Suits pick size I JP) (hj : JobPred JP)
    (jobs : List Job) : ∀ (w : World) (sn : List Snap) (k : Nat) (acc : List Asg),
    (jobs.flatMap (·.ops)).Nodup → (∀ j ∈ jobs, JP w j) → I sn →
    ∃ w' sn' k' out, gQueue pick size w jobs sn k acc = .ok (w', sn', k', out) ∧ I sn' := by
  induction jobs with
  | nil => intro w sn k acc _ _ hI; exact ⟨w, sn, k, acc, rfl, hI⟩
  | cons job rest ih =>
    intro w sn k acc hnd hok hI
    rw [List.flatMap_cons, List.nodup_append] at hnd
    rw [gQueue]
    cases hp : pick sn with
    | none => exact absurd hp (hs.picks sn hI)
    | some op =>
      cases op with
      | none => exact ⟨w, sn, k, acc, rfl, hI⟩
      | some pool =>
        simp only
        cases hsz : size (sn.getD pool default) job with
        | none => exact ih w sn _ acc hnd.2.1 (fun j hj => hok j (List.mem_cons_of_mem _ hj)) hI
        | some sz =>
          have hjob := hok job List.mem_cons_self
          obtain ⟨pc, pr, hI1⟩ := hs.sized w job sn pool sz.1 sz.2 hjob hI hp hsz
          obtain ⟨hne, hnd1, hst⟩ := hj.ops w job hjob
          obtain ⟨w1, hw1, hmk⟩ := mkA_succeeds job.prio pool hne pc pr hnd1 hst
          simp only [hmk]
          -- the jobs behind this one share no operator with it, so the constructor has not touched theirs
          exact ih w1 _ _ _ hnd.2.1 (fun j hj' => hj.keep w w1 j (mkAssignment_steps_ok hw1)
            (fun x hx => mkAssignment_others hw1 x (fun hc => hnd.2.2 x hc x (List.mem_flatMap.mpr ⟨j, hj', hx⟩) rfl))
            (hok j (List.mem_cons_of_mem _ hj'))) hI1

theorem execTick_keeps_assignable {w w1 w2 : World} {asgs : List Asg} {sus : List (Nat × Nat)} {res : List Res} (hr : WorldReady w) (hb : Built w asgs w1)
    (hseg : ∀ a ∈ asgs, ∀ r ∈ a.ops, w.store.segsOf r ≠ []) (hpar : ∀ a ∈ asgs, ParentsOK w1.store a.ops) (hex : w1.execTick sus asgs = .ok (w2, res))
    {o : Nat} (ho : w1.store.stOf o ∈ assignable) : w2.store.stOf o = w1.store.stOf o := by
  refine execTick_frame (poolsReady_of_built w w1 asgs hr hb hseg hpar).live hex o (fun hin => ?_) (fun hin => ?_)
  · -- operators in a container are busy, so they were not handed out and are busy still
    obtain ⟨p, hp, hop⟩ := List.mem_flatMap.mp hin
    rw [hb.pools] at hp
    simp only [ownP, own] at hop
    obtain ⟨c, hc, hoc⟩ := List.mem_flatMap.mp hop
    have hbusy := owned_busy hr hp (List.mem_filter.mp hc).1 o hoc
    rw [hb.others o (fun hin => not_busy_of_assignable (hb.assigned o hin).1 hbusy)] at ho
    exact not_busy_of_assignable ho hbusy
  · rw [(hb.assigned o hin).2] at ho
    simp [assignable] at ho

theorem waiting_after_built (hj : JobPred JP) {w w' : World} {taken rest : List Job} {new : List Asg}
    (hnd : ((taken ++ rest).flatMap (·.ops)).Nodup)
    (hok : ∀ j ∈ rest, JP w j) (hb : Built w new w') (hnew : ∀ a ∈ new, ∃ j ∈ taken, a.ops = j.ops) :
    ∀ j ∈ rest, JP w' j := by
  rw [List.flatMap_append, List.nodup_append] at hnd
  refine fun j hj' => hj.keep w w' j hb.steps (fun o ho => hb.others o fun hc => ?_) (hok j hj')
  obtain ⟨a, ha, hoa⟩ := List.mem_flatMap.mp hc
  obtain ⟨j0, hj0, e⟩ := hnew a ha
  exact hnd.2.2 o (List.mem_flatMap.mpr ⟨j0, hj0, e ▸ hoa⟩) o (List.mem_flatMap.mpr ⟨j, hj', ho⟩) rfl

structure QStep (pick : Pick) (size : Sizer) (I : List Snap → Prop) (w : World) (sn : List Snap) (l : List Job)
    (w' : World) (sn' : List Snap) (m : Nat) (new : List Asg) : Prop where
  run : gQueue pick size w l sn 0 [] = .ok (w', sn', m, new)
  inv : I sn'
  built : Built w new w'
  qrun : QRun pick size sn (l.take m) new sn'

theorem gQueue_in_round (hs : Suits pick size I JP) (hj : JobPred JP)
    {w : World} {sn : List Snap} {pre l post : List Job} (hnd : ((pre ++ (l ++ post)).flatMap (·.ops)).Nodup)
    (hok : ∀ j ∈ pre ++ (l ++ post), JP w j) (hI : I sn) :
    ∃ w' sn' m new, QStep pick size I w sn l w' sn' m new ∧ ((pre ++ (l.drop m ++ post)).flatMap (·.ops)).Nodup ∧
      ∀ j ∈ pre ++ (l.drop m ++ post), JP w' j := by
  have hl : l.Sublist (pre ++ (l ++ post)) := (List.sublist_append_left l post).trans (List.sublist_append_right pre _)
  obtain ⟨w', sn', m, new, h, hI'⟩ := gQueue_succeeds hs hj l w sn 0 [] ((sublist_flatMap _ hl).nodup hnd) (fun j hj' => hok j (hl.subset hj')) hI
  obtain ⟨_, _, b, r⟩ := gQueue_spec0 h
  have hperm : (l.take m ++ (pre ++ (l.drop m ++ post))).Perm (pre ++ (l ++ post)) := by
    conv => rhs; rw [← List.take_append_drop m l, List.append_assoc]
    exact List.perm_append_comm_assoc ..
  have hnd' := (hperm.flatMap_right _).nodup_iff.mpr hnd
  have k1 := waiting_after_built hj hnd' (fun j hj' => hok j (hperm.subset (List.mem_append_right _ hj'))) b
    (fun a ha => let ⟨j, hj', e, _⟩ := r.job ha; ⟨j, hj', e⟩)
  exact ⟨w', sn', m, new, ⟨h, hI', b, r⟩, (sublist_flatMap _ (List.sublist_append_right _ _)).nodup hnd', k1⟩

theorem gQueue_round {pick1 pick2 pick3 : Pick}
    (s1 : Suits pick1 size I JP) (s2 : Suits pick2 size I JP) (s3 : Suits pick3 size I JP)
    (hj : JobPred JP) {w : World} {sn : List Snap} {l1 l2 l3 : List Job} (hnd : ((l1 ++ l2 ++ l3).flatMap (·.ops)).Nodup)
    (hok : ∀ j ∈ l1 ++ l2 ++ l3, JP w j) (hI : I sn) :
    ∃ w1 sn1 m1 new1 w2 sn2 m2 new2 w3 sn3 m3 new3,
      QStep pick1 size I w sn l1 w1 sn1 m1 new1 ∧ QStep pick2 size I w1 sn1 l2 w2 sn2 m2 new2 ∧ QStep pick3 size I w2 sn2 l3 w3 sn3 m3 new3 ∧
      ((l1.drop m1 ++ l2.drop m2 ++ l3.drop m3).flatMap (·.ops)).Nodup ∧
      ∀ j ∈ l1.drop m1 ++ l2.drop m2 ++ l3.drop m3, JP w3 j := by
  rw [List.append_assoc] at hnd hok
  -- each queue runs between what is left of the earlier ones and the later ones
  obtain ⟨w1, sn1, m1, new1, t1, n1, k1⟩ := gQueue_in_round (pre := []) s1 hj hnd hok hI
  obtain ⟨w2, sn2, m2, new2, t2, n2, k2⟩ := gQueue_in_round (pre := l1.drop m1) s2 hj n1 k1 t1.inv
  rw [← List.append_assoc] at n2 k2
  obtain ⟨w3, sn3, m3, new3, t3, n3, k3⟩ := gQueue_in_round (pre := l1.drop m1 ++ l2.drop m2) (post := []) s3 hj
    (by rwa [List.append_nil]) (by rwa [List.append_nil]) t2.inv
  rw [List.append_nil] at n3 k3
  exact ⟨w1, sn1, m1, new1, w2, sn2, m2, new2, w3, sn3, m3, new3, t1, t2, t3, n3, k3⟩

end Eudoxia.Prio
