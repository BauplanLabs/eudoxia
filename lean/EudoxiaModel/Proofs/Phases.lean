import EudoxiaModel.Model.Exec
import EudoxiaModel.Proofs.Lists
/-! What a successful (or refused) call of each function of the executor consists of: one inversion
    lemma per non-recursive function, one induction principle per loop over a list (`seek` recurses on a
    measure: `fun_induction seek`).  `Forall₂` (Lists.lean) relates a loop's input and output lists. -/
namespace Eudoxia
open OpState

theorem transition_ok_iff {s s' : Store} {r : Nat} {t : OpState} :
    s.transition r t = .ok s' ↔ s.check r t = .ok () ∧ s' = s.setSt r t := by
  unfold Store.transition
  cases s.check r t with
  | error e => simp
  | ok u => simp [eq_comm]

theorem transAll_nil_ok {s s' : Store} {t : OpState} : s.transAll t [] = .ok s' ↔ s' = s := by
  simp [Store.transAll, eq_comm]

theorem transAll_cons_ok {s s' : Store} {t : OpState} {r : Nat} {rs : List Nat} :
    s.transAll t (r :: rs) = .ok s' ↔ ∃ s1, s.transition r t = .ok s1 ∧ s1.transAll t rs = .ok s' := by
  rw [Store.transAll]
  split <;> simp_all

theorem assignOps_cons_ok {s s' : Store} {r : Nat} {rs : List Nat} :
    assignOps s (r :: rs) = .ok s' ↔ ∃ s1, s.transition r assigned = .ok s1 ∧ assignOps s1 rs = .ok s' := by
  rw [assignOps]
  split <;> simp_all

theorem assignOps_cons_err {s s' : Store} {r : Nat} {rs : List Nat} {e : Err} :
    assignOps s (r :: rs) = .error (e, s') ↔
      (s.transition r assigned = .error e ∧ s' = s) ∨ ∃ s1, s.transition r assigned = .ok s1 ∧ assignOps s1 rs = .error (e, s') := by
  rw [assignOps]
  cases s.transition r assigned with
  | error e1 => simp [eq_comm]
  | ok s1 => simp

theorem mkAssignment_ok {w w' : World} {a : Asg} (h : w.mkAssignment a = .ok w') :
    a.ops ≠ [] ∧ a.cpu ≠ 0 ∧ a.ram ≠ 0 ∧ ∃ s, assignOps w.store a.ops = .ok s ∧ w' = { w with store := s } := by
  unfold World.mkAssignment at h
  by_cases h1 : a.ops.isEmpty = true
  · rw [if_pos h1] at h; cases h
  by_cases h2 : (a.cpu == 0) = true
  · rw [if_neg h1, if_pos h2] at h; cases h
  by_cases h3 : (a.ram == 0) = true
  · rw [if_neg h1, if_neg h2, if_pos h3] at h; cases h
  rw [if_neg h1, if_neg h2, if_neg h3] at h
  refine ⟨fun e => h1 (e ▸ rfl), fun e => h2 (beq_iff_eq.mpr e), fun e => h3 (beq_iff_eq.mpr e), ?_⟩
  cases hs : assignOps w.store a.ops with
  | error es => rw [hs] at h; cases h
  | ok s => rw [hs] at h; cases h; exact ⟨s, rfl, rfl⟩

theorem mkAssignment_err {w w' : World} {a : Asg} {e : Err} (h : w.mkAssignment a = .error (e, w')) :
    w' = w ∨ ∃ s, assignOps w.store a.ops = .error (e, s) ∧ w' = { w with store := s } := by
  unfold World.mkAssignment at h
  by_cases h1 : a.ops.isEmpty = true
  · rw [if_pos h1] at h; cases h; exact .inl rfl
  by_cases h2 : (a.cpu == 0) = true
  · rw [if_neg h1, if_pos h2] at h; cases h; exact .inl rfl
  by_cases h3 : (a.ram == 0) = true
  · rw [if_neg h1, if_neg h2, if_pos h3] at h; cases h; exact .inl rfl
  rw [if_neg h1, if_neg h2, if_neg h3] at h
  cases hs : assignOps w.store a.ops with
  | error es => rw [hs] at h; cases h; exact .inr ⟨_, rfl, rfl⟩
  | ok s => rw [hs] at h; cases h

/-- the four ways a generator step ends: over the allocation (frozen), last tick of the last operator,
    last tick of an operator that is followed by another, any other tick -/
theorem runAt_ok {w w' : Store} {c c' : Ctr} {cons cons' : Int} {r : Nat} {last : Bool} {m : Nat}
    (h : runAt w c cons r last m = .ok (w', c', cons')) :
    (m > c.ram ∧ w' = w ∧ c' = { c with mem := m, frozen := true } ∧ cons' = cons + ((m : Int) - c.mem)) ∨
    (m ≤ c.ram ∧ c.pos.opDone + 1 = c.pos.opTotal ∧ w.transition r completed = .ok w' ∧ last = true ∧
      c' = { c with mem := 0, canSuspend := false, completed := true, curOpIdx := c.curOpIdx + 1,
                    pos := { c.pos with i := c.pos.i + 1, opDone := c.pos.opDone + 1 } } ∧
      cons' = cons + ((m : Int) - c.mem) + (0 - (m : Int))) ∨
    (m ≤ c.ram ∧ c.pos.opDone + 1 = c.pos.opTotal ∧ w.transition r completed = .ok w' ∧ last = false ∧
      c' = { c with mem := m, canSuspend := true, curOpIdx := c.curOpIdx + 1,
                    pos := { c.pos with i := c.pos.i + 1, opDone := c.pos.opDone + 1 } } ∧
      cons' = cons + ((m : Int) - c.mem)) ∨
    (m ≤ c.ram ∧ c.pos.opDone + 1 ≠ c.pos.opTotal ∧ w' = w ∧
      c' = { c with mem := m, canSuspend := false, pos := { c.pos with i := c.pos.i + 1, opDone := c.pos.opDone + 1 } } ∧
      cons' = cons + ((m : Int) - c.mem)) := by
  unfold runAt at h
  by_cases hm : m > c.ram
  · rw [if_pos hm] at h
    cases h
    exact .inl ⟨hm, rfl, rfl, rfl⟩
  rw [if_neg hm] at h
  have hle := Nat.le_of_not_lt hm
  by_cases hd : c.pos.opDone + 1 = c.pos.opTotal
  · rw [if_pos (beq_iff_eq.mpr hd)] at h
    cases hw : w.transition r completed with
    | error e => rw [hw] at h; cases h
    | ok w1 =>
      rw [hw] at h
      cases last
      · cases h; exact .inr (.inr (.inl ⟨hle, hd, rfl, rfl, rfl, rfl⟩))
      · cases h; exact .inr (.inl ⟨hle, hd, rfl, rfl, rfl, rfl⟩)
  · rw [if_neg (fun hb => hd (beq_iff_eq.mp hb))] at h
    cases h
    exact .inr (.inr (.inr ⟨hle, hd, rfl, rfl, rfl⟩))

theorem runTick_ok {cfg : Cfg} {w w' : Store} {c c' : Ctr} {cons cons' : Int}
    (h : runTick cfg w c cons = .ok (w', c', cons')) :
    ∃ r sgs rest sg io cpuT more, c.pos.ops = (r, sgs) :: rest ∧ c.pos.segs = (sg, io, cpuT) :: more ∧
      runAt w c cons r rest.isEmpty (segMem cfg sg io c.pos.i) = .ok (w', c', cons') := by
  unfold runTick at h
  split at h
  · exact ⟨_, _, _, _, _, _, _, ‹_›, ‹_›, h⟩
  · cases h

theorem runTick_runAt {cfg : Cfg} {w w' : Store} {c c' : Ctr} {cons cons' : Int}
    (h : runTick cfg w c cons = .ok (w', c', cons')) : ∃ r last m, runAt w c cons r last m = .ok (w', c', cons') :=
  let ⟨_, _, _, _, _, _, _, _, _, hr⟩ := runTick_ok h
  ⟨_, _, _, hr⟩

theorem advance_ok {cfg : Cfg} {w w' : Store} {c c' : Ctr} {cons cons' : Int}
    (h : advance cfg w c cons = .ok (w', c', cons')) :
    (c.frozen = true ∧ w' = w ∧ c' = c ∧ cons' = cons) ∨
    (c.frozen = false ∧ ∃ w1 c1, seek w cfg c = .ok (w1, c1) ∧ runTick cfg w1 c1 cons = .ok (w', c', cons')) := by
  unfold advance at h
  split at h
  · cases h; exact .inl ⟨‹_›, rfl, rfl, rfl⟩
  · split at h
    · cases h
    · exact .inr ⟨Bool.eq_false_iff.mpr ‹_›, _, _, ‹_›, h⟩

theorem tick_ok {cfg : Cfg} {w w' : Store} {c c' : Ctr} {cons cons' : Int}
    (h : c.tick cfg w cons = .ok (w', c', cons')) :
    (c.completed = true ∧ w' = w ∧ c' = c ∧ cons' = cons) ∨
    (c.completed = false ∧ ∃ c1, advance cfg w c cons = .ok (w', c1, cons') ∧ c' = { c1 with elapsed := c1.elapsed + 1 }) := by
  unfold Ctr.tick at h
  split at h
  · cases h; exact .inl ⟨‹_›, rfl, rfl, rfl⟩
  · split at h
    · cases h
    · cases h; exact .inr ⟨Bool.eq_false_iff.mpr ‹_›, _, ‹_›, rfl⟩

def killedCtr (c : Ctr) : Ctr := { c with completed := true, err := true, mem := 0 }

theorem tick_running {cfg : Cfg} {w w' : Store} {c c' : Ctr} {cons cons' : Int} (hc : c.completed = false) (hf : c.frozen = false)
    (h : c.tick cfg w cons = .ok (w', c', cons')) :
    ∃ w1 c1 c2, seek w cfg c = .ok (w1, c1) ∧ runTick cfg w1 c1 cons = .ok (w', c2, cons') ∧ c' = { c2 with elapsed := c2.elapsed + 1 } := by
  rcases tick_ok h with ⟨hc', _⟩ | ⟨_, c2, ha, rfl⟩
  · rw [hc] at hc'; cases hc'
  rcases advance_ok ha with ⟨hf', _⟩ | ⟨_, w1, c1, hs, hr⟩
  · rw [hf] at hf'; cases hf'
  · exact ⟨w1, c1, c2, hs, hr, rfl⟩

theorem kill_ok {w w' : Store} {c c' : Ctr} {cons cons' : Int} (h : c.kill w cons = .ok (w', c', cons')) :
    w.transAll failed c.unfinished = .ok w' ∧ c' = killedCtr c ∧ cons' = cons - (c.mem : Int) := by
  unfold Ctr.kill at h
  cases hw : w.transAll failed c.unfinished with
  | error e => rw [hw] at h; cases h
  | ok w1 =>
    rw [hw] at h; cases h
    exact ⟨rfl, rfl, show cons + (0 - (c.mem : Int)) = _ by omega⟩

theorem suspend_ok {cfg : Cfg} {w w' : Store} {c c' : Ctr} (h : c.suspend cfg w = .ok (w', c')) :
    w.transAll suspending c.unfinished = .ok w' ∧ c' = { c with suspLeft := (c.writeOutTicks cfg : Nat) } := by
  unfold Ctr.suspend at h
  cases hw : w.transAll suspending c.unfinished with
  | error e => rw [hw] at h; cases h
  | ok w1 => rw [hw] at h; cases h; exact ⟨rfl, rfl⟩

theorem suspendTick_ok {w w' : Store} {c c' : Ctr} (h : c.suspendTick w = .ok (w', c')) :
    c' = { c with suspLeft := c.suspLeft - 1 } ∧
    ((c.suspLeft - 1 = 0 ∧ w.transAll pending c.unfinished = .ok w') ∨ (c.suspLeft - 1 ≠ 0 ∧ w' = w)) := by
  unfold Ctr.suspendTick at h
  by_cases hz : c.suspLeft - 1 = 0
  · rw [if_pos (beq_iff_eq.mpr hz)] at h
    cases hw : w.transAll pending c.unfinished with
    | error e => rw [hw] at h; cases h
    | ok w1 => rw [hw] at h; cases h; exact ⟨rfl, .inl ⟨hz, rfl⟩⟩
  · rw [if_neg (fun hb => hz (beq_iff_eq.mp hb))] at h
    cases h
    exact ⟨rfl, .inr ⟨hz, rfl⟩⟩

theorem verifySuspends_cons_ok {p : Pool} {cid : Nat} {rest : List Nat} :
    verifySuspends p (cid :: rest) = .ok () ↔
      ∃ c, findCtr p.active cid = some c ∧ c.canSuspend = true ∧ verifySuspends p rest = .ok () := by
  rw [verifySuspends]
  repeat' split
  all_goals simp_all

theorem doSuspends_induct {cfg : Cfg}
    {motive : ∀ w p l w' p', doSuspends cfg w p l = .ok (w', p') → Prop}
    (nil : ∀ w p h, motive w p [] w p h)
    (cons : ∀ {w p cid rest c w1 c1 w' p'} h, findCtr p.active cid = some c → c.suspend cfg w = .ok (w1, c1) →
      (hr : doSuspends cfg w1 { p with suspending := p.suspending ++ [c1], active := p.active.filter (·.cid != cid) } rest = .ok (w', p')) →
      motive _ _ _ _ _ hr → motive w p (cid :: rest) w' p' h)
    {w : Store} {p : Pool} {l : List Nat} {w' : Store} {p' : Pool} (h : doSuspends cfg w p l = .ok (w', p')) : motive w p l w' p' h := by
  induction l generalizing w p with
  | nil => cases h; exact nil _ _ _
  | cons cid rest ih =>
    have h' := h
    rw [doSuspends] at h'
    split at h'
    · cases h'
    · split at h'
      · cases h'
      · exact cons h ‹_› ‹_› h' (ih h')

theorem startAll_induct {cfg : Cfg} {w : Store}
    {motive : ∀ p n l p' n', startAll cfg w p n l = .ok (p', n') → Prop}
    (nil : ∀ p n h, motive p n [] p n h)
    (cons : ∀ {p n a rest p' n'} h, opCountOk cfg a = true →
      (hr : startAll cfg w ({ p with availC := p.availC - a.cpu, availR := p.availR - a.ram, active := p.active ++ [mkCtr w n a], created := p.created + 1 } : Pool) (n + 1) rest = .ok (p', n')) →
      motive _ _ _ _ _ hr → motive p n (a :: rest) p' n' h)
    {p : Pool} {n : Nat} {l : List Asg} {p' : Pool} {n' : Nat} (h : startAll cfg w p n l = .ok (p', n')) : motive p n l p' n' h := by
  induction l generalizing p n with
  | nil => cases h; exact nil _ _ _
  | cons a rest ih =>
    have h' := h
    rw [startAll] at h'
    split at h'
    · cases h'
    · rename_i hn
      exact cons h (by simpa using hn) h' (ih h')

theorem suspTickList_induct {motive : ∀ w l w' l', suspTickList w l = .ok (w', l') → Prop}
    (nil : ∀ w h, motive w [] w [] h)
    (cons : ∀ {w c cs w1 c1 w2 cs2} h, c.suspendTick w = .ok (w1, c1) → (hr : suspTickList w1 cs = .ok (w2, cs2)) →
      motive _ _ _ _ hr → motive w (c :: cs) w2 (c1 :: cs2) h)
    {w : Store} {l : List Ctr} {w' : Store} {l' : List Ctr} (h : suspTickList w l = .ok (w', l')) : motive w l w' l' h := by
  induction l generalizing w w' l' with
  | nil => cases h; exact nil _ _
  | cons c cs ih =>
    have h' := h
    rw [suspTickList] at h'
    split at h'
    · cases h'
    · split at h'
      · cases h'
      · cases h'; exact cons h ‹_› ‹_› (ih ‹_›)

theorem suspTickAll_ok {w w' : Store} {p p' : Pool} (h : suspTickAll w p = .ok (w', p')) :
    ∃ l, suspTickList w p.suspending = .ok (w', l) ∧
      p' = { p with availC := p.availC + cpuSum (l.filter (fun c => c.suspLeft == 0)),
                    availR := p.availR + ramSum (l.filter (fun c => c.suspLeft == 0)),
                    suspending := l.filter (fun c => !(c.suspLeft == 0)),
                    suspended := p.suspended ++ l.filter (fun c => c.suspLeft == 0) } := by
  unfold suspTickAll at h
  cases hl : suspTickList w p.suspending with
  | error e => rw [hl] at h; cases h
  | ok v => obtain ⟨w1, l⟩ := v; rw [hl] at h; cases h; exact ⟨l, rfl, rfl⟩

theorem tickAll_induct {cfg : Cfg} {motive : ∀ w l cons w' l' cons', tickAll cfg w l cons = .ok (w', l', cons') → Prop}
    (nil : ∀ w cons h, motive w [] cons w [] cons h)
    (step : ∀ {w c cs cons w1 c1 cons1 w2 cs2 cons2} h, c.tick cfg w cons = .ok (w1, c1, cons1) →
      (hr : tickAll cfg w1 cs cons1 = .ok (w2, cs2, cons2)) → motive _ _ _ _ _ _ hr →
      motive w (c :: cs) cons w2 (c1 :: cs2) cons2 h)
    {w : Store} {l : List Ctr} {cons : Int} {w' : Store} {l' : List Ctr} {cons' : Int}
    (h : tickAll cfg w l cons = .ok (w', l', cons')) :
    motive w l cons w' l' cons' h := by
  induction l generalizing w w' l' cons cons' with
  | nil => cases h; exact nil _ _ _
  | cons c cs ih =>
    have h' := h
    rw [tickAll] at h'
    split at h'
    · cases h'
    · split at h'
      · cases h'
      · cases h'; exact step h ‹_› ‹_› (ih ‹_›)

theorem killIndividual_induct {motive : ∀ w l cons w' l' cons', killIndividual w l cons = .ok (w', l', cons') → Prop}
    (nil : ∀ w cons h, motive w [] cons w [] cons h)
    (kill : ∀ {w c cs cons w1 c1 cons1 w2 cs2 cons2} h, c.mem > c.ram → c.kill w cons = .ok (w1, c1, cons1) →
      (hr : killIndividual w1 cs cons1 = .ok (w2, cs2, cons2)) → motive _ _ _ _ _ _ hr →
      motive w (c :: cs) cons w2 (c1 :: cs2) cons2 h)
    (skip : ∀ {w c cs cons w2 cs2 cons2} h, c.mem ≤ c.ram →
      (hr : killIndividual w cs cons = .ok (w2, cs2, cons2)) → motive _ _ _ _ _ _ hr →
      motive w (c :: cs) cons w2 (c :: cs2) cons2 h)
    {w : Store} {l : List Ctr} {cons : Int} {w' : Store} {l' : List Ctr} {cons' : Int}
    (h : killIndividual w l cons = .ok (w', l', cons')) :
    motive w l cons w' l' cons' h := by
  induction l generalizing w w' l' cons cons' with
  | nil => cases h; exact nil _ _ _
  | cons c cs ih =>
    have h' := h
    rw [killIndividual] at h'
    split at h'
    · split at h'
      · cases h'
      · split at h'
        · cases h'
        · cases h'; exact kill h ‹_ > _› ‹_› ‹_› (ih ‹_›)
    · split at h'
      · cases h'
      · cases h'; exact skip h (Nat.le_of_not_lt ‹_›) ‹_› (ih ‹_›)

theorem killVictims_induct {capR : Nat}
    {motive : ∀ w act cons vs w' act' cons', killVictims w capR act cons vs = .ok (w', act', cons') → Prop}
    (stop : ∀ w act (cons : Int) vs h, (vs = [] ∨ cons ≤ capR) → motive w act cons vs w act cons h)
    (kill : ∀ {w act} {cons : Int} {v vs w1 v1 cons1 w' act' cons'} h, ¬ cons ≤ capR → v.kill w cons = .ok (w1, v1, cons1) →
      (hr : killVictims w1 capR (replaceCtr act v1) cons1 vs = .ok (w', act', cons')) →
      motive _ _ _ _ _ _ _ hr → motive w act cons (v :: vs) w' act' cons' h)
    {w : Store} {act : List Ctr} {cons : Int} {vs : List Ctr} {w' : Store} {act' : List Ctr} {cons' : Int}
    (h : killVictims w capR act cons vs = .ok (w', act', cons')) : motive w act cons vs w' act' cons' h := by
  induction vs generalizing w act cons with
  | nil => cases h; exact stop _ _ _ _ _ (.inl rfl)
  | cons v vs ih =>
    have h' := h
    rw [killVictims] at h'
    split at h'
    · cases h'; exact stop _ _ _ _ _ (.inr ‹_›)
    · split at h'
      · cases h'
      · exact kill h ‹_› ‹_› h' (ih h')

theorem oomKiller_ok {w w' : Store} {p p' : Pool} (h : oomKiller w p = .ok (w', p')) :
    ∃ w1 act1 cons1, killIndividual w p.active p.consumed = .ok (w1, act1, cons1) ∧
      ((cons1 ≤ p.capR ∧ w' = w1 ∧
          p' = { p with active := act1, consumed := cons1, killSnap := killSnapOf p.active,
                        victims := (p.active.filter (fun c => c.mem > c.ram)).map (·.cid) }) ∨
       (¬ cons1 ≤ p.capR ∧ ∃ act2 cons2,
          killVictims w1 p.capR act1 cons1 (sortDesc (oomCandidates act1)) = .ok (w', act2, cons2) ∧
          p' = { p with active := act2, consumed := cons2, killSnap := killSnapOf p.active,
                        victims := (p.active.filter (fun c => c.mem > c.ram)).map (·.cid) ++
                          ((sortDesc (oomCandidates act1)).filter (killedIn act2)).map (·.cid) })) := by
  unfold oomKiller at h
  split at h
  · cases h
  · refine ⟨_, _, _, ‹_›, ?_⟩
    split at h
    · cases h; exact .inl ⟨‹_›, rfl, rfl⟩
    · split at h
      · cases h
      · cases h; exact .inr ⟨‹_›, _, _, ‹_›, rfl⟩

theorem poolRun_ok {cfg : Cfg} {w w' : Store} {p p' : Pool} {res : List Res} (h : poolRun cfg w p = .ok (w', p', res)) :
    ∃ w3 p3 w4 act4 cons4 p5, suspTickAll w p = .ok (w3, p3) ∧ tickAll cfg w3 p3.active p3.consumed = .ok (w4, act4, cons4) ∧
      oomKiller w4 { p3 with active := act4, consumed := cons4 } = .ok (w', p5) ∧ p' = (collect p5).1 ∧ res = (collect p5).2 := by
  unfold poolRun at h
  split at h
  · cases h
  · split at h
    · cases h
    · split at h
      · cases h
      · cases h; exact ⟨_, _, _, _, _, _, ‹_›, ‹_›, ‹_›, rfl, rfl⟩

/-- Phase 1 of `poolTick`.  `poolTick` is not defined through `susPhase` and `asgGate`: they name the two `if`s
    it unfolds to (`poolTick_ok`), so that statements about a phase need not repeat the expression. -/
def susPhase (cfg : Cfg) (w : Store) (p : Pool) (l : List Nat) : Except Err (Store × Pool) :=
  if l.isEmpty then .ok (w, p) else (doSuspends cfg w p l).map (fun (w1, p1) => (w1, p1.reconcile))

theorem susPhase_ok {cfg : Cfg} {w w1 : Store} {p p1 : Pool} {l : List Nat} (h : susPhase cfg w p l = .ok (w1, p1)) :
    ∃ p0, doSuspends cfg w p l = .ok (w1, p0) ∧ (p1 = p0.reconcile ∨ (l = [] ∧ p1 = p0)) := by
  unfold susPhase at h
  split at h
  · cases h
    have hl : l = [] := List.isEmpty_iff.mp ‹_›
    exact ⟨p, by rw [hl]; rfl, .inr ⟨hl, rfl⟩⟩
  · cases hd : doSuspends cfg w p l with
    | error e => rw [hd] at h; cases h
    | ok v => rw [hd] at h; cases h; exact ⟨_, rfl, .inl rfl⟩

/-- the assignment gate of `poolTick`: an empty batch is not verified -/
def asgGate (cfg : Cfg) (p : Pool) (as : List Asg) : Except Err Unit :=
  if as.isEmpty then .ok () else verifyAssignments cfg p as

theorem poolTick_ok {cfg : Cfg} {w w' : Store} {p p' : Pool} {n n' : Nat} {cm : Cmds} {res : List Res}
    (h : poolTick cfg w p n cm = .ok (w', p', n', res)) :
    ∃ w1 p1 p2, verifySuspends p cm.susp = .ok () ∧ susPhase cfg w p cm.susp = .ok (w1, p1) ∧
      asgGate cfg p1 cm.asgs = .ok () ∧ startAll cfg w1 p1 n cm.asgs = .ok (p2, n') ∧ poolRun cfg w1 p2 = .ok (w', p', res) := by
  unfold poolTick at h
  split at h
  · cases h
  · rename_i hv
    split at h
    · cases h
    · split at h
      · cases h
      · split at h
        · cases h
        · split at h
          · cases h
          · cases h
            refine ⟨_, _, _, ?_, ‹_›, ‹_›, ‹_›, ‹_›⟩
            split at hv
            · rw [List.isEmpty_iff.mp ‹cm.susp.isEmpty = true›]; rfl
            · exact hv

theorem startAll_err_induct {cfg : Cfg} {w : Store} {e : Err}
    {motive : ∀ p n l p' n', startAll cfg w p n l = .error (e, p', n') → Prop}
    (here : ∀ p n a rest h, opCountOk cfg a = false → e = .opCount → motive p n (a :: rest) p n h)
    (later : ∀ {p n a rest p' n'} h, opCountOk cfg a = true →
      (hr : startAll cfg w ({ p with availC := p.availC - a.cpu, availR := p.availR - a.ram, active := p.active ++ [mkCtr w n a], created := p.created + 1 } : Pool) (n + 1) rest = .error (e, p', n')) →
      motive _ _ _ _ _ hr → motive p n (a :: rest) p' n' h)
    {p : Pool} {n : Nat} {l : List Asg} {p' : Pool} {n' : Nat} (h : startAll cfg w p n l = .error (e, p', n')) : motive p n l p' n' h := by
  induction l generalizing p n with
  | nil => cases h
  | cons a rest ih =>
    have h' := h
    rw [startAll] at h'
    split at h'
    · rename_i hn
      cases h'; exact here _ _ _ _ _ (by simpa using hn) rfl
    · rename_i hn
      exact later h (by simpa using hn) h' (ih h')

theorem poolTick_err {cfg : Cfg} {w w' : Store} {p p' : Pool} {n n' : Nat} {cm : Cmds} {e : Err}
    (h : poolTick cfg w p n cm = .error (e, some (w', p', n'))) :
    (verifySuspends p cm.susp = .error e ∧ w' = w ∧ p' = p ∧ n' = n) ∨
    (susPhase cfg w p cm.susp = .ok (w', p') ∧ asgGate cfg p' cm.asgs = .error e ∧ n' = n) ∨
    (∃ p1, susPhase cfg w p cm.susp = .ok (w', p1) ∧ asgGate cfg p1 cm.asgs = .ok () ∧
      startAll cfg w' p1 n cm.asgs = .error (e, p', n')) := by
  unfold poolTick at h
  split at h
  · rename_i hv
    cases h
    split at hv
    · cases hv
    · exact .inl ⟨hv, rfl, rfl, rfl⟩
  · split at h
    · cases h
    · split at h
      · cases h; exact .inr (.inl ⟨‹_›, ‹_›, rfl⟩)
      · split at h
        · cases h; exact .inr (.inr ⟨_, ‹_›, ‹_›, ‹_›⟩)
        · split at h <;> cases h

theorem execPools_induct {cfg : Cfg} {sus : List (Nat × Nat)} {asgs : List Asg}
    {motive : ∀ s n done todo res s' ps n' res', execPools cfg sus asgs s n done todo res = .ok (s', ps, n', res') → Prop}
    (nil : ∀ s n done res h, motive s n done [] res s done n res h)
    (step : ∀ {s n done p todo res s1 p1 n1 r s' ps n' res'} h,
      poolTick cfg s p n (cmdsFor done.length sus asgs) = .ok (s1, p1, n1, r) →
      (hr : execPools cfg sus asgs s1 n1 (done ++ [p1]) todo (res ++ r) = .ok (s', ps, n', res')) →
      motive _ _ _ _ _ _ _ _ _ hr → motive s n done (p :: todo) res s' ps n' res' h)
    {s : Store} {n : Nat} {done todo : List Pool} {res : List Res} {s' : Store} {ps : List Pool} {n' : Nat} {res' : List Res}
    (h : execPools cfg sus asgs s n done todo res = .ok (s', ps, n', res')) : motive s n done todo res s' ps n' res' h := by
  induction todo generalizing s n done res with
  | nil => cases h; exact nil _ _ _ _ _
  | cons p todo ih =>
    have h' := h
    rw [execPools] at h'
    split at h'
    · cases h'
    · cases h'
    · exact step h ‹_› h' (ih h')

theorem execPools_err_induct {cfg : Cfg} {sus : List (Nat × Nat)} {asgs : List Asg} {e : Err}
    {motive : ∀ s n done todo res s' ps n', execPools cfg sus asgs s n done todo res = .error (e, some (s', ps, n')) → Prop}
    (here : ∀ {s n done p todo res s1 p1 n1} h, poolTick cfg s p n (cmdsFor done.length sus asgs) = .error (e, some (s1, p1, n1)) →
      motive s n done (p :: todo) res s1 (done ++ p1 :: todo) n1 h)
    (later : ∀ {s n done p todo res s1 p1 n1 r s' ps n'} h, poolTick cfg s p n (cmdsFor done.length sus asgs) = .ok (s1, p1, n1, r) →
      (hr : execPools cfg sus asgs s1 n1 (done ++ [p1]) todo (res ++ r) = .error (e, some (s', ps, n'))) →
      motive _ _ _ _ _ _ _ _ hr → motive s n done (p :: todo) res s' ps n' h)
    {s : Store} {n : Nat} {done todo : List Pool} {res : List Res} {s' : Store} {ps : List Pool} {n' : Nat}
    (h : execPools cfg sus asgs s n done todo res = .error (e, some (s', ps, n'))) : motive s n done todo res s' ps n' h := by
  induction todo generalizing s n done res with
  | nil => cases h
  | cons p todo ih =>
    have h' := h
    rw [execPools] at h'
    split at h'
    · cases h'
    · cases h'; exact here h ‹_›
    · exact later h ‹_› h' (ih h')

theorem execTick_ok {w w' : World} {sus : List (Nat × Nat)} {asgs : List Asg} {res : List Res}
    (h : w.execTick sus asgs = .ok (w', res)) :
    (∀ s ∈ sus, s.1 < w.pools.length) ∧ (∀ a ∈ asgs, a.pool < w.pools.length) ∧
    ∃ s ps n, execPools w.cfg sus asgs w.store w.nextCid [] w.pools [] = .ok (s, ps, n, res) ∧
      w' = { w with store := s, pools := ps, nextCid := n } := by
  unfold World.execTick at h
  split at h
  · cases h
  · rename_i hg
    simp only [Bool.or_eq_true, List.any_eq_true, decide_eq_true_eq, not_or, not_exists, not_and, Nat.not_le] at hg
    split at h
    · cases h
    · cases h
    · cases h; exact ⟨hg.1, hg.2, _, _, _, ‹_›, rfl⟩

theorem execTick_err {w w' : World} {sus : List (Nat × Nat)} {asgs : List Asg} {e : Err}
    (h : w.execTick sus asgs = .error (e, some w')) :
    (e = .unknownPool ∧ w' = w) ∨
    ∃ s ps n, execPools w.cfg sus asgs w.store w.nextCid [] w.pools [] = .error (e, some (s, ps, n)) ∧
      w' = { w with store := s, pools := ps, nextCid := n } := by
  unfold World.execTick at h
  split at h
  · cases h; exact .inl ⟨rfl, rfl⟩
  · split at h
    · cases h
    · cases h; exact .inr ⟨_, _, _, ‹_›, rfl⟩
    · cases h

structure Collected (p p' : Pool) (res : List Res) : Prop where
  active : p'.active = p.active.filter (fun c => !c.completed)
  suspending : p'.suspending = p.suspending
  suspended : p'.suspended = p.suspended
  res : res = (p.active.filter (·.completed)).map mkRes
  availC : p'.availC = p.availC + cpuSum (p.active.filter (·.completed))
  availR : p'.availR = p.availR + ramSum (p.active.filter (·.completed))
  capC : p'.capC = p.capC
  capR : p'.capR = p.capR
  created : p'.created = p.created
  numCompleted : p'.numCompleted = p.numCompleted + ((p.active.filter (·.completed)).filter (fun c => !c.err)).length
  tickTimes : p'.tickTimes = p.tickTimes ++ (p.active.filter (·.completed)).map (·.elapsed)

theorem collect_spec (p : Pool) : Collected p (collect p).1 (collect p).2 := by
  simp only [collect]
  split <;> constructor <;> rfl

end Eudoxia
