import EudoxiaModel.Proofs.HypCheck
/-! A concrete world that meets every hypothesis of the closed-loop theorems (non-vacuity): one pipeline, a diamond a → {b, c} → d,
    two pools, nothing started yet. -/
namespace Eudoxia.NaiveExample
open Eudoxia OpState Extracted

def seg : Seg := { baseNum := 1, read := 0 }

def store : Store :=
  ((((({} : Store).addOp 0 [] [seg]).addOp 0 [0] [seg]).addOp 0 [0] [seg]).addOp 0 [1, 2] [seg])

/-- 64 quanta per GB, so each pool has 4 CPUs and 8 GB; `g = diskScanGbSec * q / tps` as `Cfg.WF` asks -/
def world (multi : Bool) : World :=
  { cfg := { tps := 1, q := 64, g := 1280, multiOp := multi }, store := store,
    pools := [(4, 64 * 8), (4, 64 * 8)].map (fun c => Pool.fresh c.1 c.2),
    pipes := #[{ prio := 3, order := [0, 1, 2, 3], first := 0, n := 4 }] }

theorem count_hist_unused {s : Store} {pid : Nat} (x : OpState) (hc : s.cnt.size ≤ pid * 6) (hp : ∀ r < s.st.size, s.pidOf r ≠ pid) :
    s.count pid x = s.hist pid x := by
  have h1 : s.hist pid x = 0 := List.countP_eq_zero.mpr fun r hr => by simp [hp r (List.mem_range.mp hr)]
  rw [h1, Store.count, Array.getD_eq_getD_getElem?, Array.getElem?_eq_none (by omega)]
  rfl

theorem wfp (multi : Bool) : (world multi).WFP := wfpB_sound _ (by cases multi <;> decide)

theorem segsOK (multi : Bool) : (world multi).SegsOK := segsB_sound _ (by cases multi <;> decide)

theorem naiveInv (multi : Bool) : NaiveInv (world multi) := by
  refine ⟨wfp multi, segsOK multi, pidB_sound _ (by cases multi <;> decide), topoB_sound _ (by cases multi <;> decide), ?_, ?_⟩
  · -- nothing has started: every listed operator is PENDING
    intro pid ⟨o, ho, hb⟩
    have hpend : (world multi).store.stOf o = pending :=
      forall_orderOf (f := fun pid => ((world multi).orderOf pid).all fun o => (world multi).store.stOf o == pending)
        (P := fun _ l => ∀ o ∈ l, (world multi).store.stOf o = pending) (by cases multi <;> decide)
        (fun _ hf o ho => eq_of_beq (List.all_eq_true.mp hf o ho)) (fun _ _ ho => nomatch ho) pid o ho
    rcases hb with e | e | e <;> rw [hpend] at e <;> cases e
  · show CountsInv store
    have hsz : store.cnt.size = 6 := by decide
    have hpid : ∀ r < store.st.size, store.pidOf r = 0 := by decide
    refine ⟨fun r hr => by rw [hpid r hr, hsz]; exact Nat.le_refl 6, fun pid x => ?_⟩
    cases pid with
    | zero => cases x <;> decide
    | succ k =>
      refine count_hist_unused x (hsz ▸ Nat.le_mul_of_pos_left 6 (Nat.succ_pos k)) (fun r hr => ?_)
      rw [hpid r hr]
      exact (Nat.succ_ne_zero k).symm

theorem ready (multi : Bool) : WorldReady (world multi) :=
  fresh_world_ready _ _ _ _

theorem noSusp (multi : Bool) : (world multi).NoSusp := by
  intro p hp
  simp only [world, List.map_cons, List.map_nil, List.mem_cons, List.not_mem_nil, or_false] at hp
  rcases hp with rfl | rfl <;> rfl

theorem runs (arrivals : List (List Nat)) :
    (∃ out, Naive.loop (world false) {} [] arrivals = .ok out) ∧ (∃ out, Naive.loopM true (world true) {} [] arrivals = .ok out) :=
  ⟨Naive.run_never_raises arrivals _ _ _ (ready false) (wfp false) (segsOK false) rfl,
   Naive.run_multi_never_raises arrivals _ _ _ (ready true) (naiveInv true) (noSusp true) rfl⟩

end Eudoxia.NaiveExample
