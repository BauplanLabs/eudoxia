import EudoxiaModel.Proofs.WorldLive
import EudoxiaModel.Proofs.PoolRun
/-! Container numbers are never re-used: over a pool tick and over an executor tick, the numbers found in the active, suspending and suspended lists are
    numbers that were there before or fresh ones, each at most once. -/
namespace Eudoxia
open OpState Extracted

def cidsAll (p : Pool) : List Nat := cids p.active ++ cids p.suspending ++ cids p.suspended

theorem doSuspends_cids {cfg : Cfg} {l : List Nat} {w w' : Store} {p p' : Pool} (h : doSuspends cfg w p l = .ok (w', p'))
    (hcn : (cids p.active).Nodup) : (cidsAll p').Perm (cidsAll p) := by
  induction h using doSuspends_induct with
  | nil => exact .refl _
  | @cons _ p k _ c _ c1 _ _ _ hf hs _ ih =>
    obtain ⟨_, _, _, hperm⟩ := find_remove hf hcn
    refine (ih ((cids_filter_sublist _ _).nodup hcn)).trans ?_
    simp only [cidsAll, cids_append, cids_cons, cids_nil, (suspend_ident hs).cid]
    -- (A' ++ (S ++ [c])) ++ D  ~  (A ++ S) ++ D   where  c :: A' ~ A
    apply List.Perm.append_right
    have h1 : (cids (p.active.filter (·.cid != k)) ++ (cids p.suspending ++ [c.cid])).Perm (c.cid :: cids (p.active.filter (·.cid != k)) ++ cids p.suspending) := by
      rw [← List.append_assoc]
      exact (List.perm_append_singleton _ _).trans (by simp)
    exact h1.trans (List.Perm.append_right _ hperm)

theorem cids_filter_perm (l : List Ctr) (f : Ctr → Bool) : (cids (l.filter f) ++ cids (l.filter (fun c => !f c))).Perm (cids l) := by
  induction l with
  | nil => simp
  | cons c cs ih =>
    by_cases hf : f c = true
    · simp only [List.filter_cons, hf, ↓reduceIte, Bool.not_true, Bool.false_eq_true, cids_cons, List.cons_append]
      exact List.Perm.cons _ ih
    · have hf' : f c = false := by simpa using hf
      simp only [List.filter_cons, hf', Bool.false_eq_true, ↓reduceIte, Bool.not_false, cids_cons]
      exact (List.perm_middle).trans (List.Perm.cons _ ih)

theorem poolRun_cids {cfg : Cfg} {w w' : Store} {p p' : Pool} {res : List Res} (h : poolRun cfg w p = .ok (w', p', res)) :
    Shrinks (cidsAll p') (cidsAll p) := by
  obtain ⟨l3, act5, hr⟩ := poolRun_ran h
  have hl3 : cids l3 = cids p.suspending := hr.wrote.map_eq (fun c c' e => by rw [e])
  have hact : cids act5 = cids p.active := hr.cids
  intro x
  have h1 := (cids_filter_sublist act5 (fun c => !c.completed)).count_le x
  have h2 := (cids_filter_perm l3 (fun c => c.suspLeft == 0)).count_eq x
  simp only [cidsAll, hr.active, hr.suspending, hr.suspended, cids_append, List.count_append, ← hl3, ← hact] at h2 ⊢
  omega

theorem range'_split {n n1 n' : Nat} (h1 : n ≤ n1) (h2 : n1 ≤ n') :
    List.range' n (n' - n) = List.range' n (n1 - n) ++ List.range' n1 (n' - n1) := by
  obtain ⟨a, rfl⟩ := Nat.exists_eq_add_of_le h1
  obtain ⟨b, rfl⟩ := Nat.exists_eq_add_of_le h2
  rw [Nat.add_sub_cancel_left, Nat.add_sub_cancel_left, Nat.add_assoc, Nat.add_sub_cancel_left, List.range'_append_1]

theorem perm_insert (A S D R : List Nat) (n : Nat) : ((A ++ [n]) ++ S ++ D ++ R).Perm (A ++ S ++ D ++ (n :: R)) := by
  rw [List.perm_iff_count]
  intro x
  simp only [List.count_append, List.count_cons, List.count_nil]
  omega

theorem startAll_cids {cfg : Cfg} {w : Store} {as : List Asg} {p p' : Pool} {n n' : Nat} (h : startAll cfg w p n as = .ok (p', n')) :
    n ≤ n' ∧ (cidsAll p').Perm (cidsAll p ++ List.range' n (n' - n)) := by
  induction h using startAll_induct with
  | nil => simp
  | @cons p n a _ _ n' _ _ _ ih =>
    obtain ⟨hle, hp⟩ := ih
    refine ⟨Nat.le_of_succ_le hle, hp.trans ?_⟩
    rw [range'_split (Nat.le_add_right n 1) hle, Nat.add_sub_cancel_left, List.range'_one]
    simp only [cidsAll, cids_append, cids_cons, cids_nil, mkCtr]
    exact perm_insert _ _ _ _ _

theorem poolTick_cids {cfg : Cfg} {w w' : Store} {p p' : Pool} {n n' : Nat} {cm : Cmds} {res : List Res} (hcn : (cids p.active).Nodup)
    (h : poolTick cfg w p n cm = .ok (w', p', n', res)) : n ≤ n' ∧ Shrinks (cidsAll p') (cidsAll p ++ List.range' n (n' - n)) := by
  obtain ⟨w1, p1, p2, _, hs, _, hst, hr⟩ := poolTick_ok h
  obtain ⟨p0, hd, e1, e2, e3⟩ := susPhase_lists hs
  have hc1 : (cidsAll p1).Perm (cidsAll p) := by
    simp only [cidsAll, e1, e2, e3]
    exact doSuspends_cids hd hcn
  obtain ⟨hle, hp2⟩ := startAll_cids hst
  exact ⟨hle, (poolRun_cids hr).trans ((Shrinks.of_perm hp2).trans (Shrinks.append (Shrinks.of_perm hc1) (Shrinks.refl _)))⟩

theorem execPools_cids {cfg : Cfg} {sus : List (Nat × Nat)} {asgs : List Asg}
    {s : Store} {n : Nat} {done todo : List Pool} {res : List Res} {s' : Store} {ps : List Pool} {n' : Nat} {res' : List Res}
    (h : execPools cfg sus asgs s n done todo res = .ok (s', ps, n', res')) (hcn : ∀ p ∈ todo, (cids p.active).Nodup) :
    n ≤ n' ∧ Shrinks (ps.flatMap cidsAll) ((done ++ todo).flatMap cidsAll ++ List.range' n (n' - n)) := by
  induction h using execPools_induct with
  | nil => simp [Shrinks.refl]
  | step _ hpt _ ih =>
    obtain ⟨hle1, sh1⟩ := poolTick_cids (hcn _ List.mem_cons_self) hpt
    obtain ⟨hle2, sh2⟩ := ih (fun q hq => hcn q (List.mem_cons_of_mem _ hq))
    refine ⟨Nat.le_trans hle1 hle2, sh2.trans (fun x => ?_)⟩
    have h1 := sh1 x
    simp only [List.flatMap_append, List.flatMap_cons, List.flatMap_nil, List.append_nil, List.count_append, range'_split hle1 hle2] at h1 ⊢
    omega

def World.CidsOK (w : World) : Prop := (w.pools.flatMap cidsAll).Nodup ∧ ∀ k ∈ w.pools.flatMap cidsAll, k < w.nextCid

theorem execTick_cids {w w2 : World} {sus : List (Nat × Nat)} {asgs : List Asg} {res : List Res} (hg : ∀ p ∈ w.pools, PoolGoodMem w.cfg p w.nextCid)
    (hc : w.CidsOK) (hx : w.execTick sus asgs = .ok (w2, res)) : w2.CidsOK := by
  obtain ⟨_, _, s, ps, n, hexp, rfl⟩ := execTick_ok hx
  obtain ⟨hle, sh⟩ := execPools_cids hexp (fun p hp => (hg p hp).1.1.activeNodup)
  simp only [List.nil_append] at sh
  have hbig : (w.pools.flatMap cidsAll ++ List.range' w.nextCid (n - w.nextCid)).Nodup := by
    rw [List.nodup_append]
    refine ⟨hc.1, List.nodup_range', fun a ha b hb e => ?_⟩
    subst e
    exact Nat.lt_irrefl a (Nat.lt_of_lt_of_le (hc.2 a ha) (List.mem_range'_1.mp hb).1)
  refine ⟨sh.nodup hbig, fun k hk => ?_⟩
  show k < n
  rcases List.mem_append.mp (sh.mem hk) with h | h
  · exact Nat.lt_of_lt_of_le (hc.2 k h) hle
  · rw [← Nat.add_sub_of_le hle]
    exact (List.mem_range'_1.mp h).2

theorem fresh_world_cidsOK (cfg : Cfg) (store : Store) (pipes : Array PipeInfo) (caps : List (Nat × Nat)) :
    World.CidsOK { cfg := cfg, store := store, pools := caps.map (fun c => Pool.fresh c.1 c.2), pipes := pipes } := by
  have : (caps.map (fun c => Pool.fresh c.1 c.2)).flatMap cidsAll = [] :=
    List.flatMap_eq_nil_iff.mpr (fun p hp => by obtain ⟨x, _, rfl⟩ := List.mem_map.mp hp; rfl)
  unfold World.CidsOK
  rw [this]
  exact ⟨List.nodup_nil, fun _ h => nomatch h⟩

theorem cidsAll_perm (pools : List Pool) : (pools.flatMap cidsAll).Perm
    (cids (pools.flatMap (·.active)) ++ cids (pools.flatMap (·.suspending)) ++ cids (pools.flatMap (·.suspended))) := by
  rw [List.perm_iff_count]
  intro x
  induction pools with
  | nil => simp [cids]
  | cons p ps ih =>
    simp only [List.flatMap_cons, cidsAll, cids_append, List.count_append] at ih ⊢
    omega

theorem cidsOK_facts {w : World} (h : w.CidsOK) :
    (cids (w.pools.flatMap (·.suspending))).Nodup ∧ (cids (w.pools.flatMap (·.suspended))).Nodup ∧ (cids (w.pools.flatMap (·.active))).Nodup ∧
    (∀ x, x ∈ cids (w.pools.flatMap (·.suspended)) → x ∉ cids (w.pools.flatMap (·.suspending)) ∧ x ∉ cids (w.pools.flatMap (·.active))) ∧
    (∀ x, x ∈ cids (w.pools.flatMap (·.suspending)) → x ∉ cids (w.pools.flatMap (·.active))) := by
  obtain ⟨hAS, hD, hASD⟩ := List.nodup_append.mp ((cidsAll_perm w.pools).nodup_iff.mp h.1)
  obtain ⟨hA, hS, hAS'⟩ := List.nodup_append.mp hAS
  exact ⟨hS, hD, hA,
    fun x hx => ⟨fun h2 => hASD x (List.mem_append_right _ h2) x hx rfl, fun h2 => hASD x (List.mem_append_left _ h2) x hx rfl⟩,
    fun x hx h2 => hAS' x h2 x hx rfl⟩

theorem World.CidsOK.activeNodup {w : World} (h : w.CidsOK) : (cids (w.pools.flatMap (·.active))).Nodup := (cidsOK_facts h).2.2.1

theorem World.CidsOK.suspended_apart {w : World} (h : w.CidsOK) {q p : Pool} (hq : q ∈ w.pools) (hp : p ∈ w.pools) {c c0 : Ctr}
    (hc : c ∈ q.suspended) (hc0 : c0 ∈ p.active ++ p.suspending) : c.cid ≠ c0.cid := by
  intro e
  obtain ⟨_, _, _, hs, _⟩ := cidsOK_facts h
  obtain ⟨n1, n2⟩ := hs c.cid (List.mem_map_of_mem (List.mem_flatMap.mpr ⟨q, hq, hc⟩))
  rcases List.mem_append.mp hc0 with h0 | h0
  · exact n2 (e ▸ List.mem_map_of_mem (List.mem_flatMap.mpr ⟨p, hp, h0⟩))
  · exact n1 (e ▸ List.mem_map_of_mem (List.mem_flatMap.mpr ⟨p, hp, h0⟩))

end Eudoxia
