import EudoxiaModel.Model.Profile
import EudoxiaModel.Proofs.ExecSteps
/-! The tick generator consumes, one tick at a time, the list of memory demands that the documented model prescribes:
    `remL` (the demands still to come, computed from the generator position, each labelled with its operator) loses exactly
    its head per executed tick; `rem` is the same list without the labels (`remL_snd`). -/
namespace Eudoxia
open OpState

/-- demands of a segment `(sg, io, cpuT)` from its iteration `i` on; as in the generator, `io` and `cpuT` are the segment's entry in
    `opTickTable`, not `sg.ioTicks` -/
def remSeg (cfg : Cfg) (s : Seg × Nat × Nat) (i : Nat) : List Nat :=
  (List.range' i (s.2.1 + s.2.2 - i)).map (segMem cfg s.1 s.2.1)

def remSegs (cfg : Cfg) : List (Seg × Nat × Nat) → Nat → List Nat
  | [], _ => []
  | s :: more, i => remSeg cfg s i ++ more.flatMap (fun s => remSeg cfg s 0)

def opRem (cfg : Cfg) (cpu : Nat) (allsegs : List Seg) : List Nat := remSegs cfg (allsegs.zip (opTickTable cfg cpu allsegs)) 0

def remOps (cfg : Cfg) (cpu : Nat) (ops : List (Nat × List Seg)) : List Nat := ops.flatMap (fun o => opRem cfg cpu o.2)

def remHead (cfg : Cfg) (c : Ctr) : List Nat :=
  match c.pos.ops with
  | [] => []
  | o :: _ => if c.pos.started then remSegs cfg c.pos.segs c.pos.i else opRem cfg c.cpu o.2

def rem (cfg : Cfg) (c : Ctr) : List Nat := remHead cfg c ++ remOps cfg c.cpu c.pos.ops.tail

def PosOK (cfg : Cfg) (c : Ctr) : Prop :=
  c.pos.started = true → c.pos.opDone + (remSegs cfg c.pos.segs c.pos.i).length = c.pos.opTotal

theorem remSeg_done (cfg : Cfg) (s : Seg × Nat × Nat) (i : Nat) (h : ¬ i < s.2.1 + s.2.2) : remSeg cfg s i = [] := by
  unfold remSeg
  have : s.2.1 + s.2.2 - i = 0 := by omega
  rw [this]; rfl

theorem remSeg_step (cfg : Cfg) (s : Seg × Nat × Nat) (i : Nat) (h : i < s.2.1 + s.2.2) :
    remSeg cfg s i = segMem cfg s.1 s.2.1 i :: remSeg cfg s (i + 1) := by
  unfold remSeg
  have : s.2.1 + s.2.2 - i = (s.2.1 + s.2.2 - (i + 1)) + 1 := by omega
  rw [this, List.range'_succ, List.map_cons]

theorem remSegs_zero (cfg : Cfg) (l : List (Seg × Nat × Nat)) : remSegs cfg l 0 = l.flatMap (fun s => remSeg cfg s 0) := by
  cases l <;> simp [remSegs]

theorem remSeg_length (cfg : Cfg) (s : Seg × Nat × Nat) : (remSeg cfg s 0).length = s.2.1 + s.2.2 := by simp [remSeg]

theorem flat_length (cfg : Cfg) : ∀ (segs : List Seg) (t : List (Nat × Nat)), segs.length = t.length →
    ((segs.zip t).flatMap (fun s => remSeg cfg s 0)).length = tickSum t
  | [], [], _ => rfl
  | [], _ :: _, h => by cases h
  | _ :: _, [], h => by cases h
  | s :: ss, x :: xs, h => by
    simp only [List.zip_cons_cons, List.flatMap_cons, List.length_append, remSeg_length, flat_length cfg ss xs (Nat.succ.inj h)]
    simp [tickSum]

theorem opTickTable_length (cfg : Cfg) (cpu : Nat) (segs : List Seg) : (opTickTable cfg cpu segs).length = segs.length := by
  unfold opTickTable
  simp only
  split
  · cases segs <;> simp_all [rawTickTable]
  · simp [rawTickTable]

theorem opRem_length (cfg : Cfg) (cpu : Nat) (segs : List Seg) : (opRem cfg cpu segs).length = tickSum (opTickTable cfg cpu segs) := by
  unfold opRem
  rw [remSegs_zero]
  exact flat_length cfg segs _ (opTickTable_length cfg cpu segs).symm

theorem opTickTable_pos (cfg : Cfg) (cpu : Nat) (segs : List Seg) (h : segs ≠ []) : 1 ≤ tickSum (opTickTable cfg cpu segs) := by
  unfold opTickTable
  have hne : segs.isEmpty = false := by cases segs <;> simp_all
  by_cases h0 : tickSum (rawTickTable cfg cpu segs) = 0
  · simp only [hne, Bool.not_false, h0, beq_self_eq_true, Bool.and_self, ↓reduceIte]
    simp [tickSum]
  · have : (tickSum (rawTickTable cfg cpu segs) == 0) = false := by simpa using h0
    simp only [hne, Bool.not_false, this, Bool.and_false, Bool.false_eq_true, ↓reduceIte]
    omega

theorem opRem_ne_nil (cfg : Cfg) (cpu : Nat) {segs : List Seg} (h : segs ≠ []) : opRem cfg cpu segs ≠ [] := by
  intro e
  have := opTickTable_pos cfg cpu segs h
  rw [← opRem_length, e] at this
  exact absurd this (by decide)

def labelOps (cfg : Cfg) (cpu : Nat) : List (Nat × List Seg) → List (Nat × Nat)
  | [] => []
  | o :: os => (opRem cfg cpu o.2).map (fun m => (os.length, m)) ++ labelOps cfg cpu os

/-- `rem` with every demand labelled by the number of operators that FOLLOW its own in the container (the specification's `ctrDemands`
    labels by the index from the front; `labelOps_eq_ctrDemands` converts).  So `∀ x ∈ tl, x.1 ≠ k` behind a demand `(k, m)` says that
    it was its operator's last. -/
def remL (cfg : Cfg) (c : Ctr) : List (Nat × Nat) :=
  (remHead cfg c).map (fun m => (c.pos.ops.tail.length, m)) ++ labelOps cfg c.cpu c.pos.ops.tail

theorem labelOps_snd (cfg : Cfg) (cpu : Nat) (os : List (Nat × List Seg)) : (labelOps cfg cpu os).map (·.2) = remOps cfg cpu os := by
  induction os with
  | nil => rfl
  | cons o os ih =>
    simp only [labelOps, List.map_append, List.map_map, ih, remOps, List.flatMap_cons]
    congr 1
    simp [Function.comp_def]

theorem remL_snd (cfg : Cfg) (c : Ctr) : (remL cfg c).map (·.2) = rem cfg c := by
  simp only [remL, rem, List.map_append, List.map_map, labelOps_snd]
  congr 1
  simp [Function.comp_def]

theorem labelOps_lt (cfg : Cfg) (cpu : Nat) (os : List (Nat × List Seg)) : ∀ x ∈ labelOps cfg cpu os, x.1 < os.length := by
  induction os with
  | nil => intro x hx; simp [labelOps] at hx
  | cons o os ih =>
    intro x hx
    simp only [labelOps, List.mem_append, List.mem_map] at hx
    rcases hx with ⟨m, _, rfl⟩ | hx
    · simp
    · have := ih x hx; simp; omega

theorem labelOps_eq_nil_iff (cfg : Cfg) (cpu : Nat) {os : List (Nat × List Seg)} (hseg : ∀ o ∈ os, o.2 ≠ []) :
    labelOps cfg cpu os = [] ↔ os = [] := by
  cases os with
  | nil => simp [labelOps]
  | cons o os => simp [labelOps, opRem_ne_nil cfg cpu (hseg o List.mem_cons_self)]

theorem block_label_iff (cfg : Cfg) (cpu : Nat) (os : List (Nat × List Seg)) (hd : List Nat) :
    (∀ x ∈ hd.map (fun m => (os.length, m)) ++ labelOps cfg cpu os, x.1 ≠ os.length) ↔ hd = [] := by
  constructor
  · intro hall
    cases hd with
    | nil => rfl
    | cons a as => exact absurd rfl (hall (os.length, a) (by simp))
  · rintro rfl x hx
    exact Nat.ne_of_lt (labelOps_lt cfg cpu os x hx)

theorem remL_started {cfg : Cfg} {c : Ctr} {o : Nat × List Seg} {rest : List (Nat × List Seg)}
    (e1 : c.pos.ops = o :: rest) (e2 : c.pos.started = true) :
    remL cfg c = (remSegs cfg c.pos.segs c.pos.i).map (fun m => (rest.length, m)) ++ labelOps cfg c.cpu rest := by
  simp only [remL, remHead, e1, e2, ↓reduceIte, List.tail_cons]

theorem remSegs_step (cfg : Cfg) {sg : Seg} {io cpuT i : Nat} (more : List (Seg × Nat × Nat)) (h : i < io + cpuT) :
    remSegs cfg ((sg, io, cpuT) :: more) i = segMem cfg sg io i :: remSegs cfg ((sg, io, cpuT) :: more) (i + 1) := by
  simp only [remSegs, remSeg_step cfg (sg, io, cpuT) i h, List.cons_append]

theorem seek_remL {cfg : Cfg} {w w' : Store} {c c' : Ctr} (h : seek w cfg c = .ok (w', c')) (hp : PosOK cfg c) :
    remL cfg c' = remL cfg c ∧ PosOK cfg c' := by
  fun_induction seek w cfg c
  case case1 => cases h
  case case2 => cases h
  case case3 w0 c0 r allsegs rest hops hs w1 hw ih =>
    have hns : c0.pos.started = false := by simpa using hs
    obtain ⟨i1, i2⟩ := ih h (fun _ => by simp only [Nat.zero_add]; exact opRem_length cfg c0.cpu allsegs)
    refine ⟨i1.trans ?_, i2⟩
    simp only [remL, remHead, hops, hns, List.tail_cons, Bool.false_eq_true, ↓reduceIte]
    rfl
  case case4 w0 c0 r allsegs rest hops hs hsg ih =>
    have hst : c0.pos.started = true := by simpa using hs
    obtain ⟨i1, i2⟩ := ih h (fun hx => by simp at hx)
    refine ⟨i1.trans ?_, i2⟩
    simp only [remL_started hops hst, hsg, remSegs, List.map_nil, List.nil_append]
    cases rest <;> simp [remL, remHead, labelOps]
  case case5 => cases h; exact ⟨rfl, hp⟩
  case case6 w0 c0 r allsegs rest hops hs sg io cpuT more hsg hlt ih =>
    have hst : c0.pos.started = true := by simpa using hs
    have hdone : remSeg cfg (sg, io, cpuT) c0.pos.i = [] := remSeg_done cfg _ _ (by simpa using hlt)
    have hp' := hp hst
    rw [hsg, remSegs, hdone, List.nil_append, ← remSegs_zero] at hp'
    obtain ⟨i1, i2⟩ := ih h (fun _ => hp')
    refine ⟨i1.trans ?_, i2⟩
    simp only [remL_started hops hst, hsg]
    rw [remL_started (c := { c0 with pos := { c0.pos with segs := more, i := 0 } }) hops hst, remSegs.eq_2, hdone, List.nil_append,
      remSegs_zero]

theorem seek_ops_suffix {cfg : Cfg} {w w' : Store} {c c' : Ctr} (h : seek w cfg c = .ok (w', c')) :
    c'.pos.ops <:+ c.pos.ops := by
  fun_induction seek w cfg c
  case case1 => cases h
  case case2 => cases h
  case case3 ih => exact ih h
  case case4 w0 c0 r allsegs rest hops hs hsg ih =>
    rw [hops]
    exact (ih h).trans (List.suffix_cons _ _)
  case case5 => cases h; exact List.suffix_refl _
  case case6 ih => exact ih h

structure Running (cfg : Cfg) (c : Ctr) : Prop where
  frozen : c.frozen = false
  completed : c.completed = false
  pos : PosOK cfg c
  segs : ∀ o ∈ c.pos.ops, o.2 ≠ []

/-- **one tick consumes one demand**: `Container.tick` finds the next demand `m` (of an operator followed by `k` others) at the head of
`remL`; over the allocation the container freezes holding `m` and nothing is consumed. -/
theorem tick_consumes {cfg : Cfg} {w : Store} {c : Ctr} {cons : Int} {w' : Store} {c' : Ctr} {cons' : Int}
    (hr : Running cfg c) (h : c.tick cfg w cons = .ok (w', c', cons')) :
    ∃ k m tl, remL cfg c = (k, m) :: tl ∧ c'.ram = c.ram ∧ c'.cpu = c.cpu ∧ (∀ o ∈ c'.pos.ops, o.2 ≠ []) ∧ c'.elapsed = c.elapsed + 1 ∧
      (c.ram < m → c'.frozen = true ∧ c'.mem = m ∧ c'.completed = false ∧ c'.curOpIdx = c.curOpIdx) ∧
      (m ≤ c.ram → c'.frozen = false ∧ remL cfg c' = tl ∧ PosOK cfg c' ∧ (c'.completed = true ↔ tl = []) ∧
        c'.mem = (if tl = [] then 0 else m) ∧
        c'.curOpIdx = (if ∀ x ∈ tl, x.1 ≠ k then c.curOpIdx + 1 else c.curOpIdx) ∧
        (c'.canSuspend = true ↔ ((∀ x ∈ tl, x.1 ≠ k) ∧ tl ≠ []))) := by
  obtain ⟨w1, c1, c2, hs, ht, rfl⟩ := tick_running hr.completed hr.frozen h
  obtain ⟨_, hsame, r, sgs, rest, sg, io, cpuT, more, e1, e2, e3, e4⟩ := seek_spec hs
  obtain ⟨hL, hp1⟩ := seek_remL hs hr.pos
  have hseg1 : ∀ o ∈ c1.pos.ops, o.2 ≠ [] := fun o ho => hr.segs o ((seek_ops_suffix hs).subset ho)
  rw [runTick, e1, e3] at ht
  -- `c1` is `c` at the position `p1`, so that every other field of `c1` reduces to that of `c`
  obtain ⟨p1, rfl⟩ : ∃ p, c1 = { c with pos := p } := ⟨_, hsame⟩
  simp only at e1 e2 e3 e4 hseg1 ht
  have hstep := remSegs_step cfg (sg := sg) more e4
  rw [← e3] at hstep
  have hcnt := hp1 e2
  simp only [hstep, List.length_cons] at hcnt
  -- what is left after this demand: the rest of the head operator's block, then the demands of `rest`; by the tick counters the
  -- block is empty exactly if this is the operator's last tick
  obtain ⟨tl, htl⟩ : ∃ tl, tl = (remSegs cfg p1.segs (p1.i + 1)).map (fun m => (rest.length, m)) ++ labelOps cfg c.cpu rest := ⟨_, rfl⟩
  have hdone : (∀ x ∈ tl, x.1 ≠ rest.length) ↔ p1.opDone + 1 = p1.opTotal := by
    rw [htl, block_label_iff]
    exact ⟨fun e => by rw [e] at hcnt; exact hcnt, fun e => List.eq_nil_of_length_eq_zero (by omega)⟩
  have hnil : tl = [] ↔ p1.opDone + 1 = p1.opTotal ∧ rest.isEmpty = true := by
    rw [← hdone, htl, block_label_iff, List.append_eq_nil_iff, List.map_eq_nil_iff, List.isEmpty_iff,
      labelOps_eq_nil_iff cfg c.cpu fun o ho => hseg1 o (by rw [e1]; exact List.mem_cons_of_mem _ ho)]
  refine ⟨rest.length, segMem cfg sg io p1.i, tl, by rw [← hL, remL_started e1 e2, hstep, htl]; rfl, ?_⟩
  by_cases hm : segMem cfg sg io p1.i ≤ c.ram
  · have q := runAt_fits ht hm
    have hops : c2.pos.ops = p1.ops := by rw [q.pos]
    refine ⟨q.ram, q.cpu, by rw [hops]; exact hseg1, by rw [q.elapsed], fun hgt => absurd hm (Nat.not_le_of_lt hgt),
      fun _ => ⟨q.frozen.trans hr.frozen, ?_, ?_, ?_, ?_, ?_, ?_⟩⟩
    · rw [remL_started (c := { c2 with elapsed := c2.elapsed + 1 }) (hops.trans e1) (by rw [q.pos]; exact e2), q.pos, q.cpu, htl]
    · intro _
      simp only [q.pos]
      omega
    · rw [hnil, q.completed, hr.completed]; simp
    · rw [q.mem]; simp only [hnil]
    · rw [q.curOpIdx]; simp only [hdone]
    · rw [q.canSuspend, hdone, ne_eq, hnil]
      cases rest.isEmpty <;> simp
  · have hgt := Nat.lt_of_not_le hm
    rw [runAt_excess ht hgt]
    exact ⟨rfl, rfl, hseg1, rfl, fun _ => ⟨rfl, rfl, hr.completed, rfl⟩, fun hle => absurd hle hm⟩

theorem remSeg_zero_eq (cfg : Cfg) (sg : Seg) (io cpuT : Nat) : remSeg cfg (sg, io, cpuT) 0 = segDemands cfg sg io cpuT := by
  unfold remSeg segDemands
  simp only [Nat.sub_zero]
  rw [List.range'_eq_map_range]
  simp only [Nat.zero_add, List.map_id']
  induction cpuT with
  | zero =>
    simp only [Nat.add_zero, List.replicate_zero, List.append_nil]
    apply List.map_congr_left
    intro i hi
    simp only [segMem, List.mem_range.mp hi, ↓reduceIte]
    cases sg.fixed <;> rfl
  | succ n ih =>
    rw [← Nat.add_assoc, List.range_succ, List.map_append, ih, List.replicate_succ', ← List.append_assoc]
    congr 1
    simp [segMem]
    intro h; omega

theorem remSegs_eq_opDemands (cfg : Cfg) : ∀ (segs : List Seg) (t : List (Nat × Nat)),
    (segs.zip t).flatMap (fun s => remSeg cfg s 0) = opDemands cfg segs t := by
  intro segs
  induction segs with
  | nil => intro t; simp [opDemands]
  | cons s ss ih =>
    intro t
    cases t with
    | nil => simp [opDemands]
    | cons x xs =>
      obtain ⟨io, cp⟩ := x
      simp only [List.zip_cons_cons, List.flatMap_cons, opDemands, ih, remSeg_zero_eq]

theorem opRem_eq (cfg : Cfg) (cpu : Nat) (segs : List Seg) : opRem cfg cpu segs = opDemands cfg segs (opTickTable cfg cpu segs) := by
  unfold opRem; rw [remSegs_zero]; exact remSegs_eq_opDemands cfg segs _

theorem labelOps_eq_ctrDemands (cfg : Cfg) (cpu : Nat) : ∀ (ops : List (Nat × List Seg)) (base : Nat),
    (labelOps cfg cpu ops).map (fun x => (base + (ops.length - 1 - x.1), x.2)) =
    (List.range ops.length).flatMap (fun j => (opDemands cfg ((ops.map (·.2)).getD j []) ((specTicks cfg cpu (ops.map (·.2))).getD j [])).map (fun m => (base + j, m))) := by
  intro ops
  induction ops with
  | nil => intro base; simp [labelOps]
  | cons o os ih =>
    intro base
    simp only [labelOps, List.map_append, List.map_map, List.length_cons]
    rw [List.range_succ_eq_map, List.flatMap_cons, List.flatMap_map]
    congr 1
    · simp only [specTicks, List.map_cons, List.getD_cons_zero, Nat.add_zero, opRem_eq]
      apply List.map_congr_left
      intro m _
      simp
    · have := ih (base + 1)
      simp only [specTicks, Nat.add_assoc, Nat.add_comm 1] at this ⊢
      simp only [List.map_cons, List.getD_cons_succ]
      rw [← this]
      apply List.map_congr_left
      intro x hx
      have hlt := labelOps_lt cfg cpu os x hx
      simp only [Prod.mk.injEq, and_true]
      omega

theorem mkPos_segs {w : Store} {ops : List Nat} (hseg : ∀ r ∈ ops, w.segsOf r ≠ []) : ∀ o ∈ (mkPos w ops).ops, o.2 ≠ [] := by
  intro o ho
  obtain ⟨r, hr, rfl⟩ := List.mem_map.mp ho
  exact hseg r hr

theorem remL_mkCtr (cfg : Cfg) (w : Store) (cid : Nat) (a : Asg) :
    remL cfg (mkCtr w cid a) = labelOps cfg a.cpu (mkPos w a.ops).ops := by
  simp only [remL, remHead, mkCtr, mkPos]
  cases a.ops <;> simp [labelOps]

theorem mkCtr_demands (cfg : Cfg) (w : Store) (cid : Nat) (a : Asg) :
    (remL cfg (mkCtr w cid a)).map (fun x => ((a.ops.map (fun r => w.segsOf r)).length - 1 - x.1, x.2)) =
      ctrDemands cfg (a.ops.map (fun r => w.segsOf r)) (specTicks cfg a.cpu (a.ops.map (fun r => w.segsOf r))) := by
  have := labelOps_eq_ctrDemands cfg a.cpu (mkPos w a.ops).ops 0
  simp only [mkPos, List.length_map, Nat.zero_add, List.map_map] at this
  rw [remL_mkCtr]
  simp only [mkPos, ctrDemands, List.length_map]
  exact this

theorem mkCtr_running (cfg : Cfg) {w : Store} (cid : Nat) {a : Asg} (hseg : ∀ r ∈ a.ops, w.segsOf r ≠ []) :
    Running cfg (mkCtr w cid a) :=
  ⟨rfl, rfl, (fun h => by cases h), mkPos_segs hseg⟩

def runN (cfg : Cfg) : Nat → Store → Ctr → Int → Except Err (Store × Ctr × Int)
  | 0, w, c, cons => .ok (w, c, cons)
  | n + 1, w, c, cons =>
    match c.tick cfg w cons with
    | .error e => .error e
    | .ok (w1, c1, cons1) => runN cfg n w1 c1 cons1

theorem runN_succ_ok {cfg : Cfg} {n : Nat} {w : Store} {c : Ctr} {cons : Int} {r : Store × Ctr × Int} :
    runN cfg (n + 1) w c cons = .ok r ↔
      ∃ w1 c1 cons1, runN cfg n w c cons = .ok (w1, c1, cons1) ∧ c1.tick cfg w1 cons1 = .ok r := by
  induction n generalizing w c cons with
  | zero =>
    have e : runN cfg (0 + 1) w c cons = c.tick cfg w cons := by
      rw [runN]
      cases c.tick cfg w cons <;> rfl
    rw [e]
    exact ⟨fun h => ⟨w, c, cons, rfl, h⟩, fun ⟨_, _, _, h0, h⟩ => by cases h0; exact h⟩
  | succ n ih =>
    rw [runN]
    cases ht : c.tick cfg w cons with
    | error e => simp [runN, ht]
    | ok v => simp only [ih]; conv => rhs; simp only [runN, ht]

end Eudoxia
