import EudoxiaModel.Proofs.Profile
import EudoxiaModel.Proofs.PoolInv
import EudoxiaModel.Proofs.Mem
import EudoxiaModel.Proofs.Lift
import EudoxiaModel.Proofs.PoolRun
/-! Which operators a container may touch, and what it leaves them as: the footprint discipline behind
    "an operator is in at most one live container" (C02). -/
namespace Eudoxia
open OpState Extracted

inductive StepsP (P : Nat → OpState → Prop) : Store → Store → Prop
  | refl (w) : StepsP P w w
  | step {w w1 w2 : Store} (r : Nat) (t : OpState) : P r t → w.transition r t = .ok w1 → StepsP P w1 w2 → StepsP P w w2

theorem StepsP.trans {P : Nat → OpState → Prop} {a b c : Store} (h1 : StepsP P a b) (h2 : StepsP P b c) : StepsP P a c := by
  induction h1 with
  | refl => exact h2
  | step r t hs h _ ih => exact .step r t hs h (ih h2)

theorem StepsP.single {P : Nat → OpState → Prop} {w w1 : Store} {r : Nat} {t : OpState} (hs : P r t) (h : w.transition r t = .ok w1) : StepsP P w w1 :=
  .step r t hs h (.refl _)

theorem StepsP.mono {P Q : Nat → OpState → Prop} {a b : Store} (h : StepsP P a b) (hst : ∀ r t, P r t → Q r t) : StepsP Q a b := by
  induction h with
  | refl => exact .refl _
  | step r t hs h _ ih => exact .step r t (hst r t hs) h ih

theorem StepsP.frame {P : Nat → OpState → Prop} {a b : Store} (h : StepsP P a b) (o : Nat) (ho : ∀ t, ¬ P o t) : b.stOf o = a.stOf o := by
  induction h with
  | refl => rfl
  | step r t hs h _ ih =>
    rw [ih]
    exact transition_other h (fun e => ho t (e ▸ hs))

theorem StepsP.keeps {P : Nat → OpState → Prop} {a b : Store} (h : StepsP P a b) (o : Nat) (G : OpState → Prop) (hG : ∀ t, P o t → G t)
    (h0 : G (a.stOf o)) : G (b.stOf o) := by
  induction h with
  | refl => exact h0
  | step r t hs h _ ih =>
    apply ih
    by_cases e : r = o
    · subst e
      rw [transition_self h (transition_ok h).2.2.2]
      exact hG t hs
    · rw [transition_other h e]; exact h0

theorem StepsP.steps {P : Nat → OpState → Prop} {a b : Store} (h : StepsP P a b) : Steps a b := by
  induction h with
  | refl => exact .refl _
  | step r t _ h _ ih => exact .step r t h ih

theorem transAll_stepsP (t : OpState) : ∀ (l : List Nat) (w w' : Store), w.transAll t l = .ok w' → StepsP (fun r t' => r ∈ l ∧ t' = t) w w' := by
  intro l
  induction l with
  | nil => intro w w' h; rw [transAll_nil_ok.mp h]; exact .refl _
  | cons r rs ih =>
    intro w w' h
    obtain ⟨w1, hw, h⟩ := transAll_cons_ok.mp h
    exact .step r t ⟨List.mem_cons_self, rfl⟩ hw ((ih w1 w' h).mono fun x t' hx => ⟨List.mem_cons_of_mem _ hx.1, hx.2⟩)

/-- what the generator position still has to run: `pos.ops`, without a head that has had all its ticks -/
def posUnf (c : Ctr) : List Nat :=
  ((if c.pos.started && c.pos.opDone == c.pos.opTotal then c.pos.ops.tail else c.pos.ops).map (·.1))

def headRunning (c : Ctr) : Bool := c.pos.started && !(c.pos.opDone == c.pos.opTotal)

theorem headRunning_iff {c : Ctr} : headRunning c = true ↔ c.pos.started = true ∧ c.pos.opDone ≠ c.pos.opTotal := by
  simp only [headRunning, Bool.and_eq_true, Bool.not_eq_true', beq_eq_false_iff_ne, ne_eq]

theorem headRunning_of_not_started {c : Ctr} (h : c.pos.started = false) : headRunning c = false :=
  Bool.eq_false_iff.mpr fun hr => by rw [(headRunning_iff.mp hr).1] at h; cases h

theorem headRunning_of_done {c : Ctr} (h : c.pos.opDone = c.pos.opTotal) : headRunning c = false :=
  Bool.eq_false_iff.mpr fun hr => (headRunning_iff.mp hr).2 h

theorem posUnf_of_not_started {c : Ctr} (h : c.pos.started = false) : posUnf c = c.pos.ops.map (·.1) := by
  simp only [posUnf, h, Bool.false_and, Bool.false_eq_true, ↓reduceIte]

theorem posUnf_of_done {c : Ctr} (hs : c.pos.started = true) (hd : c.pos.opDone = c.pos.opTotal) : posUnf c = c.pos.ops.tail.map (·.1) := by
  simp only [posUnf, hs, hd, beq_self_eq_true, Bool.and_self, ↓reduceIte]

theorem posUnf_of_headRunning {c : Ctr} (h : headRunning c = true) : posUnf c = c.pos.ops.map (·.1) := by
  obtain ⟨_, hd⟩ := headRunning_iff.mp h
  simp only [posUnf, beq_eq_false_iff_ne.mpr hd, Bool.and_false, Bool.false_eq_true, ↓reduceIte]

/-- container-internal consistency: the generator position `pos` and the operator cursor `curOpIdx` describe the same unfinished suffix -/
structure CtrWF (cfg : Cfg) (c : Ctr) : Prop where
  pos : PosOK cfg c
  segs : ∀ o ∈ c.pos.ops, o.2 ≠ []
  idx : c.ops.drop c.curOpIdx = posUnf c

theorem CtrWF.congr {cfg : Cfg} {c c' : Ctr} (h : CtrWF cfg c) (hp : c'.pos = c.pos) (ho : c'.ops = c.ops)
    (hi : c'.curOpIdx = c.curOpIdx) : CtrWF cfg c' :=
  ⟨fun hs => by rw [hp] at hs ⊢; exact h.pos hs, by rw [hp]; exact h.segs, by rw [ho, hi, h.idx]; simp only [posUnf, hp]⟩

theorem unfinished_eq (c : Ctr) : c.unfinished = c.ops.drop c.curOpIdx := rfl

theorem unfinished_nodup {c : Ctr} (h : c.ops.Nodup) : c.unfinished.Nodup := (List.drop_sublist _ _).nodup h

theorem Ctr.SameButPos.unfinished {c c' : Ctr} (h : c.SameButPos c') : c'.unfinished = c.unfinished := by rw [h]; rfl

/-- Every operator has at least one tick, so `seek` starts at most one operator on the way: the head of the unfinished suffix. -/
theorem seek_cases {cfg : Cfg} {w : Store} {c : Ctr} (wf : CtrWF cfg c) :
    (∀ w' c', seek w cfg c = .ok (w', c') →
      CtrWF cfg c' ∧ posUnf c' = posUnf c ∧ headRunning c' = true ∧
      ((headRunning c = true ∧ w' = w) ∨
       (headRunning c = false ∧ ∃ r, (posUnf c).head? = some r ∧ w.transition r running = .ok w'))) ∧
    (∀ e, seek w cfg c = .error e →
      posUnf c = [] ∨ (headRunning c = false ∧ ∃ r, (posUnf c).head? = some r ∧ w.transition r running = .error e)) := by
  fun_induction seek w cfg c
  case case1 w0 c0 hops =>
    refine ⟨fun _ _ h => (nomatch h), fun _ _ => .inl ?_⟩
    unfold posUnf; rw [hops]; split <;> rfl
  case case2 w0 c0 r allsegs rest hops hs e' hw =>
    have hns : c0.pos.started = false := by simpa using hs
    refine ⟨fun _ _ h => (nomatch h), fun e h => .inr ⟨headRunning_of_not_started hns, r, by rw [posUnf_of_not_started hns, hops]; rfl, ?_⟩⟩
    cases h; exact hw
  case case3 w0 c0 r allsegs rest hops hs w1 hw ih =>
    have hns : c0.pos.started = false := by simpa using hs
    have hpos := opTickTable_pos cfg c0.cpu allsegs (wf.segs (r, allsegs) (by rw [hops]; exact List.mem_cons_self))
    generalize hc1 : ({ c0 with pos := { c0.pos with started := true, segs := allsegs.zip (opTickTable cfg c0.cpu allsegs), i := 0, opDone := 0, opTotal := tickSum (opTickTable cfg c0.cpu allsegs) } } : Ctr) = c1 at ih
    have hh1 : headRunning c1 = true := headRunning_iff.mpr (by subst hc1; exact ⟨rfl, fun e : 0 = tickSum _ => by omega⟩)
    have hU1 : posUnf c1 = posUnf c0 := by rw [posUnf_of_headRunning hh1, posUnf_of_not_started hns, ← hc1]
    have hhd : (posUnf c0).head? = some r := by rw [posUnf_of_not_started hns, hops]; rfl
    obtain ⟨ihok, iherr⟩ := ih
      ⟨fun _ => by subst hc1; exact (Nat.zero_add _).trans (opRem_length cfg c0.cpu allsegs), by subst hc1; exact wf.segs,
       by rw [hU1, ← wf.idx, ← hc1]⟩
    refine ⟨fun w' c' h => ?_, fun e h => ?_⟩
    · obtain ⟨i1, i2, i3, i4⟩ := ihok w' c' h
      have hw' : w' = w1 := by
        rcases i4 with ⟨_, e⟩ | ⟨e, _⟩
        · exact e
        · rw [hh1] at e; cases e
      exact ⟨i1, i2.trans hU1, i3, .inr ⟨headRunning_of_not_started hns, r, hhd, hw' ▸ hw⟩⟩
    · rcases iherr e h with h | ⟨h, _⟩
      · rw [← hU1, h] at hhd; cases hhd
      · rw [hh1] at h; cases h
  case case4 w0 c0 r allsegs rest hops hs hsg ih =>
    have hst : c0.pos.started = true := by simpa using hs
    have hfin := wf.pos hst
    rw [hsg] at hfin
    have hU : posUnf c0 = rest.map (·.1) := by rw [posUnf_of_done hst hfin, hops]; rfl
    obtain ⟨ihok, iherr⟩ := ih
      ⟨fun hx => (nomatch hx), fun o ho => wf.segs o (by rw [hops]; exact List.mem_cons_of_mem _ ho), by rw [posUnf_of_not_started rfl]; exact wf.idx.trans hU⟩
    rw [headRunning_of_done hfin, hU]
    exact ⟨ihok, iherr⟩
  case case5 w0 c0 r allsegs rest hops hs sg io cpuT more hsg hlt =>
    have hst : c0.pos.started = true := by simpa using hs
    have hp := wf.pos hst
    rw [hsg, remSegs, remSeg_step cfg (sg, io, cpuT) _ hlt] at hp
    simp only [List.cons_append, List.length_cons] at hp
    have hh : headRunning c0 = true := headRunning_iff.mpr ⟨hst, by omega⟩
    refine ⟨fun w' c' h => ?_, fun _ h => nomatch h⟩
    cases h
    exact ⟨wf, rfl, hh, .inl ⟨hh, rfl⟩⟩
  case case6 w0 c0 r allsegs rest hops hs sg io cpuT more hsg hlt ih =>
    have hst : c0.pos.started = true := by simpa using hs
    have hp := wf.pos hst
    rw [hsg, remSegs, remSeg_done cfg _ _ (by simpa using hlt), List.nil_append] at hp
    exact ih ⟨fun _ => by simp only; rw [remSegs_zero]; exact hp, wf.segs, by rw [wf.idx]; rfl⟩

/-- the three disjuncts: over the allocation (the container freezes where it is), last tick of the head operator, any other tick -/
theorem runTick_wf {cfg : Cfg} {w w' : Store} {c c' : Ctr} {cons cons' : Int} {r : Nat} {sgs : List Seg} {rest : List (Nat × List Seg)}
    {sg : Seg} {io cpuT : Nat} {more : List (Seg × Nat × Nat)}
    (wf : CtrWF cfg c) (e1 : c.pos.ops = (r, sgs) :: rest) (e2 : c.pos.started = true) (e3 : c.pos.segs = (sg, io, cpuT) :: more)
    (e4 : c.pos.i < io + cpuT) (h : runTick cfg w c cons = .ok (w', c', cons')) :
    CtrWF cfg c' ∧ c.Ident c' ∧
    ((w' = w ∧ c'.frozen = true ∧ c'.unfinished = c.unfinished ∧ headRunning c' = headRunning c ∧ c'.completed = c.completed) ∨
     (w.transition r completed = .ok w' ∧ c'.unfinished = rest.map (·.1) ∧ headRunning c' = false ∧
        c'.completed = (c.completed || rest.isEmpty)) ∨
     (w' = w ∧ c'.unfinished = c.unfinished ∧ headRunning c' = true ∧ c'.canSuspend = false ∧ c'.completed = c.completed)) := by
  obtain ⟨_, _, _, _, _, _, _, e1', e3', h⟩ := runTick_ok h
  rw [e1] at e1'; rw [e3] at e3'
  cases e1'; cases e3'
  have hp := wf.pos e2
  rw [e3, remSegs, remSeg_step cfg (sg, io, cpuT) _ e4] at hp
  simp only [List.cons_append, List.length_cons] at hp
  have hU : c.ops.drop c.curOpIdx = r :: rest.map (·.1) := by
    rw [wf.idx, posUnf_of_headRunning (by simp [headRunning, e2]; omega), e1]; rfl
  have hdrop : c.ops.drop (c.curOpIdx + 1) = rest.map (·.1) := by rw [List.drop_add_one_eq_tail_drop, hU]; rfl
  have hpos : ∀ c2 : Ctr, c2.pos = { c.pos with i := c.pos.i + 1, opDone := c.pos.opDone + 1 } → PosOK cfg c2 := by
    intro c2 e _
    simp only [e, e3, remSegs]
    omega
  have hid := runAt_ident h
  rcases runAt_ok h with ⟨_, rfl, rfl, _⟩ | ⟨_, hl, hw, hlast, rfl, _⟩ | ⟨_, hl, hw, hlast, rfl, _⟩ | ⟨_, hl, rfl, rfl, _⟩
  · exact ⟨wf.congr rfl rfl rfl, hid, .inl ⟨rfl, rfl, rfl, rfl, rfl⟩⟩
  · exact ⟨⟨hpos _ rfl, wf.segs, hdrop.trans (by simp [posUnf, e1, e2, hl])⟩, hid,
      .inr (.inl ⟨hw, hdrop, by simp [headRunning, hl], by simp [hlast]⟩)⟩
  · exact ⟨⟨hpos _ rfl, wf.segs, hdrop.trans (by simp [posUnf, e1, e2, hl])⟩, hid,
      .inr (.inl ⟨hw, hdrop, by simp [headRunning, hl], by simp [hlast]⟩)⟩
  · exact ⟨⟨hpos _ rfl, wf.segs, hU.trans (by simp [posUnf, e1, e2, hl])⟩, hid,
      .inr (.inr ⟨rfl, rfl, by simp [headRunning, e2, hl], rfl, rfl⟩)⟩

/-- what one generator step does to operator states: it starts operators of the unfinished suffix and completes at most its head, which
then leaves the suffix -/
structure Advanced (cfg : Cfg) (w : Store) (c : Ctr) (w' : Store) (c' : Ctr) : Prop where
  wf : CtrWF cfg c'
  ops : c'.ops = c.ops
  cid : c'.cid = c.cid
  unf : c'.unfinished = c.unfinished ∨ ∃ r, c.unfinished = r :: c'.unfinished ∧ w'.stOf r = completed
  steps : StepsP (fun r t => r ∈ c.unfinished ∧ (t = running ∨ (t = completed ∧ r ∉ c'.unfinished))) w w'
  done : c'.completed = true → c.completed = false → c'.unfinished = []

theorem advance_live {cfg : Cfg} {w w' : Store} {c c' : Ctr} {cons cons' : Int}
    (hf : c.frozen = false) (wf : CtrWF cfg c) (hnd : c.ops.Nodup) (h : advance cfg w c cons = .ok (w', c', cons')) :
    Advanced cfg w c w' c' := by
  rcases advance_ok h with ⟨hf', _⟩ | ⟨_, w1, c1, hs, hr⟩
  · rw [hf] at hf'; cases hf'
  obtain ⟨_, hsame, r, sgs, rest, sg, io, cpuT, more, e1, e2, e3, e4⟩ := seek_spec hs
  obtain ⟨wf1, hunf, hh1, hw1⟩ := (seek_cases wf).1 _ _ hs
  obtain ⟨wf', hid, hcase⟩ := runTick_wf wf1 e1 e2 e3 e4 hr
  have hid := hsame.ident.trans hid
  have hc1 : c1.completed = c.completed := by rw [hsame]
  have hU : c.unfinished = r :: rest.map (·.1) := by
    rw [unfinished_eq, wf.idx, ← hunf, posUnf_of_headRunning hh1, e1]; rfl
  have hrun : StepsP (fun x t => x ∈ c.unfinished ∧ (t = running ∨ (t = completed ∧ x ∉ c'.unfinished))) w w1 := by
    rcases hw1 with ⟨_, rfl⟩ | ⟨_, r', hr', hw⟩
    · exact .refl _
    · rw [← wf.idx, ← unfinished_eq, hU] at hr'
      cases hr'
      exact .single ⟨by rw [hU]; exact List.mem_cons_self, .inl rfl⟩ hw
  have stay : w' = w1 → c'.unfinished = c1.unfinished → c'.completed = c1.completed → Advanced cfg w c w' c' := fun ew hu hc =>
    ⟨wf', hid.ops, hid.cid, .inl (hu.trans hsame.unfinished), by rw [ew]; exact hrun, fun hx hcc => by rw [hc, hc1, hcc] at hx; cases hx⟩
  rcases hcase with ⟨ew, _, hu, _, hc⟩ | ⟨hw, hu, _, hc⟩ | ⟨ew, hu, _, _, hc⟩
  · exact stay ew hu hc
  · have hrn : r ∉ rest.map (·.1) := by
      have := unfinished_nodup hnd
      rw [hU] at this
      exact (List.nodup_cons.mp this).1
    refine ⟨wf', hid.ops, hid.cid, .inr ⟨r, by rw [hU, hu], transition_self hw (transition_ok hw).2.2.2⟩,
      hrun.trans (.single ⟨by rw [hU]; exact List.mem_cons_self, .inr ⟨rfl, by rw [hu]; exact hrn⟩⟩ hw), fun hx hcc => ?_⟩
    rw [hc, hc1, hcc, Bool.false_or, List.isEmpty_iff] at hx
    rw [hu, hx]; rfl
  · exact stay ew hu hc

/-- the states an operator may be in while it belongs to the unfinished suffix of a live container -/
def Busy (t : OpState) : Prop := t = assigned ∨ t = running ∨ t = suspending

theorem not_busy_of_assignable {t : OpState} (h : t ∈ assignable) (hb : Busy t) : False := by
  simp only [assignable, List.mem_cons, List.not_mem_nil, or_false] at h
  rcases h with e | e <;> rcases hb with f | f | f <;> rw [e] at f <;> cases f

theorem tick_live {cfg : Cfg} {w w' : Store} {c c' : Ctr} {cons cons' : Int}
    (wf : CtrWF cfg c) (hnd : c.ops.Nodup) (hfc : c.completed = false → c.frozen = false) (h : c.tick cfg w cons = .ok (w', c', cons')) :
    Advanced cfg w c w' c' := by
  rcases tick_ok h with ⟨hc, rfl, rfl, _⟩ | ⟨hc, c1, ha, rfl⟩
  · exact ⟨wf, rfl, rfl, .inl rfl, .refl _, fun hx hcc => by rw [hcc] at hx; cases hx⟩
  · have a := advance_live (hfc hc) wf hnd ha
    exact { a with wf := a.wf.congr rfl rfl rfl }

theorem kill_live {w w' : Store} {c c' : Ctr} {cons cons' : Int} (h : c.kill w cons = .ok (w', c', cons')) :
    c'.ops = c.ops ∧ c'.cid = c.cid ∧ c'.completed = true ∧ c'.unfinished = c.unfinished ∧
    StepsP (fun r t => r ∈ c.unfinished ∧ t = failed) w w' := by
  obtain ⟨hw, rfl, _⟩ := kill_ok h
  exact ⟨rfl, rfl, rfl, rfl, transAll_stepsP failed _ _ _ hw⟩

theorem suspend_live {cfg : Cfg} {w w' : Store} {c c' : Ctr} (h : c.suspend cfg w = .ok (w', c')) :
    c' = { c with suspLeft := c'.suspLeft } ∧ StepsP (fun r t => r ∈ c.unfinished ∧ t = suspending) w w' := by
  obtain ⟨hw, rfl⟩ := suspend_ok h
  exact ⟨rfl, transAll_stepsP suspending _ _ _ hw⟩

theorem suspendTick_live {w w' : Store} {c c' : Ctr} (h : c.suspendTick w = .ok (w', c')) :
    c' = { c with suspLeft := c.suspLeft - 1 } ∧ StepsP (fun r t => r ∈ c.unfinished ∧ t = pending ∧ c'.suspLeft = 0) w w' := by
  obtain ⟨rfl, hz⟩ := suspendTick_ok h
  refine ⟨rfl, ?_⟩
  rcases hz with ⟨hz, hw⟩ | ⟨_, rfl⟩
  · exact (transAll_stepsP pending _ _ _ hw).mono fun r t hx => ⟨hx.1, hx.2, hz⟩
  · exact .refl _

/-- operators owned by the not-yet-finished containers of a list -/
def own (l : List Ctr) : List Nat := (l.filter (fun c => !c.completed)).flatMap Ctr.unfinished

def ownOf (c : Ctr) : List Nat := if c.completed then [] else c.unfinished

theorem own_nil : own [] = [] := rfl

structure CtrInv (cfg : Cfg) (c : Ctr) : Prop where
  wf : CtrWF cfg c
  nd : c.ops.Nodup

def BusyAll (w : Store) (l : List Ctr) : Prop := ∀ c ∈ l, c.completed = false → ∀ o ∈ c.unfinished, Busy (w.stOf o)

theorem mem_ownOf {c : Ctr} {o : Nat} : o ∈ ownOf c ↔ c.completed = false ∧ o ∈ c.unfinished := by
  unfold ownOf; cases c.completed <;> simp

theorem ownOf_sublist (c : Ctr) : (ownOf c).Sublist c.unfinished := by
  unfold ownOf; split
  · exact List.nil_sublist _
  · exact .refl _

theorem own_eq_flatMap (l : List Ctr) : own l = l.flatMap ownOf := by
  induction l with
  | nil => rfl
  | cons c l ih => rw [List.flatMap_cons, ← ih]; unfold own ownOf; cases h : c.completed <;> simp [h]

theorem own_cons (c : Ctr) (l : List Ctr) : own (c :: l) = ownOf c ++ own l := by
  simp only [own_eq_flatMap, List.flatMap_cons]

theorem own_append (a b : List Ctr) : own (a ++ b) = own a ++ own b := by
  simp only [own_eq_flatMap, List.flatMap_append]

theorem mem_own_iff {l : List Ctr} {o : Nat} : o ∈ own l ↔ ∃ c ∈ l, o ∈ ownOf c := by
  rw [own_eq_flatMap]; exact List.mem_flatMap

theorem mem_own {l : List Ctr} {c : Ctr} {o : Nat} (hc : c ∈ l) (hn : c.completed = false) (ho : o ∈ c.unfinished) : o ∈ own l :=
  mem_own_iff.mpr ⟨c, hc, mem_ownOf.mpr ⟨hn, ho⟩⟩

theorem CtrInv.congr {cfg : Cfg} {c c' : Ctr} (h : CtrInv cfg c) (hp : c'.pos = c.pos) (ho : c'.ops = c.ops)
    (hi : c'.curOpIdx = c.curOpIdx) : CtrInv cfg c' :=
  ⟨h.wf.congr hp ho hi, ho ▸ h.nd⟩

def BusyOn (w : Store) (c : Ctr) : Prop := ∀ o ∈ ownOf c, Busy (w.stOf o)

theorem busyAll_iff {w : Store} {l : List Ctr} : BusyAll w l ↔ ∀ c ∈ l, BusyOn w c :=
  ⟨fun h c hc o ho => h c hc (mem_ownOf.mp ho).1 o (mem_ownOf.mp ho).2, fun h c hc hn o ho => h c hc o (mem_ownOf.mpr ⟨hn, ho⟩)⟩

def Framed (R : Store → Ctr → Prop) : Prop :=
  ∀ {w w' : Store} {c : Ctr}, R w c → Steps w w' → (∀ o ∈ ownOf c, w'.stOf o = w.stOf o) → R w' c

theorem busyOn_framed : Framed BusyOn := fun h _ hf o ho => hf o ho ▸ h o ho

theorem busyOn_of_completed {w : Store} {c : Ctr} (h : c.completed = true) : BusyOn w c := fun o ho => by simp [ownOf, h] at ho

theorem busyAll_frame {w w' : Store} {l : List Ctr} (hb : BusyAll w l) (hf : ∀ o ∈ own l, w'.stOf o = w.stOf o) : BusyAll w' l :=
  fun c hc hn o ho => hf o (mem_own hc hn ho) ▸ hb c hc hn o ho

/-- `alive` tells which resulting containers stay in the list afterwards (a suspension that has ended leaves it) -/
structure StepOK (R : Store → Ctr → Prop) (alive : Ctr → Bool) (w : Store) (c : Ctr) (w' : Store) (c' : Ctr) : Prop where
  steps : Steps w w'
  sub : (if alive c' then ownOf c' else []).Sublist (ownOf c)
  frame : ∀ o, o ∉ ownOf c → w'.stOf o = w.stOf o
  keep : alive c' = true → R w c → R w' c'

def allAlive : Ctr → Bool := fun _ => true

theorem StepOK.id {R : Store → Ctr → Prop} (w : Store) (c : Ctr) : StepOK R allAlive w c w c :=
  ⟨.refl _, .refl _, fun _ _ => rfl, fun _ h => h⟩

theorem own_filter_cons (alive : Ctr → Bool) (c : Ctr) (l : List Ctr) :
    own ((c :: l).filter alive) = (if alive c then ownOf c else []) ++ own (l.filter alive) := by
  rw [List.filter_cons]; split
  · rw [own_cons]
  · rfl

/-- containers that own pairwise distinct operators do not disturb one another -/
theorem Pass.live {R : Store → Ctr → Prop} {alive : Ctr → Bool} {w w' : Store} {l l' : List Ctr} (hR : Framed R) (h : Pass (StepOK R alive) w l w' l') :
    (own l).Nodup → (∀ c ∈ l, R w c) →
    Steps w w' ∧ (own (l'.filter alive)).Sublist (own l) ∧ (∀ o, o ∉ own l → w'.stOf o = w.stOf o) ∧ ∀ c' ∈ l'.filter alive, R w' c' := by
  induction h with
  | nil w => intro _ _; exact ⟨.refl _, .refl _, fun _ _ => rfl, fun _ hc => by cases hc⟩
  | @cons w w1 w2 c c1 cs cs2 hs _ ih =>
    intro hnd hr
    rw [own_cons] at hnd
    have hdisj : ∀ o, o ∈ ownOf c → o ∉ own cs := fun o ho hx => (List.nodup_append.mp hnd).2.2 o ho o hx rfl
    have hr1 : ∀ d ∈ cs, R w1 d := fun d hd =>
      hR (hr d (List.mem_cons_of_mem _ hd)) hs.steps fun o ho => hs.frame o fun hx => hdisj o hx (mem_own_iff.mpr ⟨d, hd, ho⟩)
    obtain ⟨i0, i1, i2, i3⟩ := ih (List.nodup_append.mp hnd).2.1 hr1
    refine ⟨hs.steps.trans i0, by rw [own_filter_cons, own_cons]; exact hs.sub.append i1, fun o ho => ?_, fun d hd => ?_⟩
    · rw [own_cons, List.mem_append, not_or] at ho
      rw [i2 o ho.2, hs.frame o ho.1]
    · rw [List.filter_cons] at hd
      split at hd
      · rename_i ha
        rcases List.mem_cons.mp hd with rfl | hd
        · refine hR (hs.keep ha (hr c List.mem_cons_self)) i0 fun o ho => i2 o (hdisj o (hs.sub.subset ?_))
          rw [ha]; exact ho
        · exact i3 d hd
      · exact i3 d hd

theorem filter_allAlive (l : List Ctr) : l.filter allAlive = l := List.filter_eq_self.mpr fun _ _ => rfl

theorem tick_stepOK {cfg : Cfg} {R : Store → Ctr → Prop} {w w' : Store} {c c' : Ctr} {cons cons' : Int} (ci : CtrInv cfg c)
    (hfc : c.completed = false → c.frozen = false) (h : c.tick cfg w cons = .ok (w', c', cons')) (keep : R w c → R w' c') :
    StepOK R allAlive w c w' c' := by
  have t := tick_live ci.wf ci.nd hfc h
  rcases tick_ok h with ⟨_, rfl, rfl, _⟩ | ⟨hc, _⟩
  · exact .id _ _
  · have e : ownOf c = c.unfinished := by simp [ownOf, hc]
    refine ⟨t.steps.steps, ?_, fun o ho => t.steps.frame o fun _ hx => ho (e ▸ hx.1), fun _ => keep⟩
    rw [e]
    refine (ownOf_sublist c').trans ?_
    rcases t.unf with e' | ⟨r, e', _⟩ <;> rw [e']
    · exact .refl _
    · exact List.sublist_cons_self _ _

theorem tick_busy {cfg : Cfg} {w w' : Store} {c c' : Ctr} {cons cons' : Int} (ci : CtrInv cfg c)
    (hfc : c.completed = false → c.frozen = false) (h : c.tick cfg w cons = .ok (w', c', cons')) (hb : BusyOn w c) : BusyOn w' c' := by
  intro o ho
  have t := tick_live ci.wf ci.nd hfc h
  have hoc : o ∈ ownOf c := (tick_stepOK (R := fun _ _ => True) ci hfc h id).sub.subset ho
  refine t.steps.keeps o Busy (fun _ hx => ?_) (hb o hoc)
  rcases hx.2 with e | ⟨_, e⟩
  · exact e ▸ .inr (.inl rfl)
  · exact absurd (mem_ownOf.mp ho).2 e

theorem tickAll_owned {cfg : Cfg} {R : Store → Ctr → Prop} {l l' : List Ctr} {w w' : Store} {cons cons' : Int}
    (h : tickAll cfg w l cons = .ok (w', l', cons')) (hinv : ∀ c ∈ l, CtrInv cfg c ∧ (c.completed = false → c.frozen = false))
    (keep : ∀ c ∈ l, ∀ {w w' c' cons cons'}, c.tick cfg w cons = .ok (w', c', cons') → R w c → R w' c') :
    Pass (StepOK R allAlive) w l w' l' ∧ ∀ c' ∈ l', CtrInv cfg c' := by
  have hp := tickAll_pass h
  refine ⟨hp.imp fun c hc _ _ _ ⟨_, _, ht⟩ => tick_stepOK (hinv c hc).1 (hinv c hc).2 ht (keep c hc ht), fun c' hc' => ?_⟩
  obtain ⟨c, hc, _, _, _, _, ht⟩ := hp.forall₂.mem_right hc'
  obtain ⟨ci, hfc⟩ := hinv c hc
  have t := tick_live ci.wf ci.nd hfc ht
  exact ⟨t.wf, t.ops ▸ ci.nd⟩

theorem tickAll_live {cfg : Cfg} {l l' : List Ctr} {w w' : Store} {cons cons' : Int}
    (h : tickAll cfg w l cons = .ok (w', l', cons'))
    (hinv : ∀ c ∈ l, CtrInv cfg c ∧ (c.completed = false → c.frozen = false)) (hnd : (own l).Nodup) (hb : BusyAll w l) :
    (∀ c' ∈ l', CtrInv cfg c') ∧ (own l').Sublist (own l) ∧ (∀ o, o ∉ own l → w'.stOf o = w.stOf o) ∧ BusyAll w' l' := by
  obtain ⟨hp, hi⟩ := tickAll_owned (R := BusyOn) h hinv fun c hc => tick_busy (hinv c hc).1 (hinv c hc).2
  obtain ⟨_, s1, s2, s3⟩ := hp.live busyOn_framed hnd (busyAll_iff.mp hb)
  rw [filter_allAlive] at s1 s3
  exact ⟨hi, s1, s2, busyAll_iff.mpr s3⟩

theorem kill_stepOK {R : Store → Ctr → Prop} {w w' : Store} {c c' : Ctr} {cons cons' : Int} (hR : ∀ w c, c.completed = true → R w c)
    (hn : c.completed = false) (h : c.kill w cons = .ok (w', c', cons')) : StepOK R allAlive w c w' c' := by
  obtain ⟨_, _, k3, _, k5⟩ := kill_live h
  have e : ownOf c' = [] := by simp [ownOf, k3]
  exact ⟨k5.steps, by simp [allAlive, e], fun o ho => k5.frame o fun t hx => ho (mem_ownOf.mpr ⟨hn, hx.1⟩), fun _ _ => hR _ _ k3⟩

theorem killedCtr_inv {cfg : Cfg} {c : Ctr} (h : CtrInv cfg c) : CtrInv cfg (killedCtr c) := h.congr rfl rfl rfl

theorem killIndividual_owned {cfg : Cfg} {R : Store → Ctr → Prop} {l l' : List Ctr} {w w' : Store} {cons cons' : Int}
    (hR : ∀ w c, c.completed = true → R w c) (h : killIndividual w l cons = .ok (w', l', cons'))
    (hinv : ∀ c ∈ l, CtrInv cfg c ∧ (c.completed = true → c.mem ≤ c.ram)) :
    Pass (StepOK R allAlive) w l w' l' ∧ ∀ c' ∈ l', CtrInv cfg c' := by
  have hp := killIndividual_pass h
  refine ⟨hp.imp fun c hc _ _ _ hk => ?_, fun c' hc' => ?_⟩
  · rcases hk with ⟨hgt, _, _, hk⟩ | ⟨_, rfl, rfl⟩
    · exact kill_stepOK hR (Bool.eq_false_iff.mpr fun hcc => Nat.not_le_of_gt hgt ((hinv c hc).2 hcc)) hk
    · exact .id _ _
  · obtain ⟨c, hc, _, _, ⟨_, _, _, hk⟩ | ⟨_, _, rfl⟩⟩ := hp.forall₂.mem_right hc'
    · exact (kill_ok hk).2.1 ▸ killedCtr_inv (hinv c hc).1
    · exact (hinv c' hc).1

theorem suspendTick_stepOK {R : Store → Ctr → Prop} {w w' : Store} {c c' : Ctr} (hn : c.completed = false)
    (h : c.suspendTick w = .ok (w', c')) (keep : c'.suspLeft ≠ 0 → R w c → R w c') :
    StepOK R (fun c => !(c.suspLeft == 0)) w c w' c' := by
  obtain ⟨e, st⟩ := suspendTick_live h
  have hown : ownOf c' = ownOf c := by rw [e]; rfl
  refine ⟨st.steps, ?_, fun o ho => st.frame o fun t hx => ho (mem_ownOf.mpr ⟨hn, hx.1⟩), fun ha hr => ?_⟩
  · split
    · rw [hown]; exact .refl _
    · exact List.nil_sublist _
  · have hne : c'.suspLeft ≠ 0 := by simpa using ha
    rcases (suspendTick_ok h).2 with ⟨hz, _⟩ | ⟨_, rfl⟩
    · rw [e] at hne; exact absurd hz hne
    · exact keep hne hr

theorem suspTickList_owned {cfg : Cfg} {R : Store → Ctr → Prop} {l l' : List Ctr} {w w' : Store}
    (h : suspTickList w l = .ok (w', l')) (hinv : ∀ c ∈ l, CtrInv cfg c ∧ c.completed = false)
    (keep : ∀ c ∈ l, ∀ {w : Store} (s : Int), R w c → R w { c with suspLeft := s }) :
    Pass (StepOK R (fun c => !(c.suspLeft == 0))) w l w' l' ∧ ∀ c' ∈ l', CtrInv cfg c' ∧ c'.completed = false := by
  have hp := suspTickList_pass h
  refine ⟨hp.imp fun c hc _ _ _ hs => suspendTick_stepOK (hinv c hc).2 hs fun _ hr => (suspendTick_ok hs).1 ▸ keep c hc _ hr,
    fun c' hc' => ?_⟩
  obtain ⟨c, hc, _, _, hs⟩ := hp.forall₂.mem_right hc'
  exact (suspendTick_ok hs).1 ▸ ⟨(hinv c hc).1.congr rfl rfl rfl, (hinv c hc).2⟩

theorem mem_replaceCtr {l : List Ctr} {c d : Ctr} (h : d ∈ replaceCtr l c) : d = c ∨ (d ∈ l ∧ d.cid ≠ c.cid) := by
  obtain ⟨x, hx, rfl⟩ := List.mem_map.mp h
  split
  · exact .inl rfl
  · rename_i hne
    exact .inr ⟨hx, by simpa using hne⟩

theorem mem_replaceCtr_of_ne {l : List Ctr} {c u : Ctr} (hu : u ∈ l) (hne : u.cid ≠ c.cid) : u ∈ replaceCtr l c :=
  List.mem_map.mpr ⟨u, hu, by simp [hne]⟩

theorem cids_replaceCtr (l : List Ctr) (c : Ctr) : cids (replaceCtr l c) = cids l := by
  unfold cids replaceCtr
  rw [List.map_map]
  refine List.map_congr_left fun x _ => ?_
  simp only [Function.comp]
  split
  · exact (beq_iff_eq.mp ‹_›).symm
  · rfl

theorem own_replaceCtr (l : List Ctr) {c : Ctr} (hc : c.completed = true) : (own (replaceCtr l c)).Sublist (own l) := by
  induction l with
  | nil => exact .refl _
  | cons x xs ih =>
    rw [replaceCtr, List.map_cons, own_cons, own_cons]
    refine List.Sublist.append ?_ ih
    split
    · simp [ownOf, hc]
    · exact .refl _

theorem own_disjoint {l : List Ctr} {x v : Ctr} (hnd : (own l).Nodup) (hx : x ∈ l) (hv : v ∈ l) (hne : x.cid ≠ v.cid) :
    ∀ o ∈ ownOf x, o ∉ ownOf v := by
  intro o hox hov
  induction l with
  | nil => cases hx
  | cons y ys ih =>
    rw [own_cons] at hnd
    have hd := (List.nodup_append.mp hnd).2.2
    rcases List.mem_cons.mp hx with rfl | hx' <;> rcases List.mem_cons.mp hv with rfl | hv'
    · exact hne rfl
    · exact hd o hox o (mem_own_iff.mpr ⟨v, hv', hov⟩) rfl
    · exact hd o hov o (mem_own_iff.mpr ⟨x, hx', hox⟩) rfl
    · exact ih (List.nodup_append.mp hnd).2.1 hx' hv'

theorem kill_victim {cfg : Cfg} {R : Store → Ctr → Prop} (hR : Framed R) (hRc : ∀ w c, c.completed = true → R w c)
    {act vs : List Ctr} {v v1 : Ctr} {w w1 : Store} {cons cons1 : Int} (hk : v.kill w cons = .ok (w1, v1, cons1))
    (hcn : (cids act).Nodup) (hvnd : (cids (v :: vs)).Nodup) (hsub : ∀ u ∈ v :: vs, u ∈ act ∧ u.completed = false)
    (hnd : (own act).Nodup) (hr : ∀ c ∈ act, R w c) (hinv : ∀ c ∈ act, CtrInv cfg c) :
    (cids (replaceCtr act v1)).Nodup ∧ (∀ u ∈ vs, u ∈ replaceCtr act v1 ∧ u.completed = false) ∧ (own (replaceCtr act v1)).Nodup ∧
    (∀ c ∈ replaceCtr act v1, R w1 c) ∧ (∀ c ∈ replaceCtr act v1, CtrInv cfg c) ∧
    (own (replaceCtr act v1)).Sublist (own act) ∧ ∀ o, o ∉ own act → w1.stOf o = w.stOf o := by
  obtain ⟨hv, hvn⟩ := hsub v List.mem_cons_self
  rw [cids_cons, List.nodup_cons] at hvnd
  obtain ⟨_, k2, k3, _⟩ := kill_live hk
  have hs := kill_stepOK (R := R) hRc hvn hk
  have hsl := own_replaceCtr act k3
  refine ⟨(cids_replaceCtr act v1).symm ▸ hcn, fun u hu => ?_, hsl.nodup hnd, fun d hd => ?_, fun d hd => ?_, hsl,
    fun o ho => hs.frame o fun hx => ho (mem_own_iff.mpr ⟨v, hv, hx⟩)⟩
  · obtain ⟨hu1, hu2⟩ := hsub u (List.mem_cons_of_mem _ hu)
    exact ⟨mem_replaceCtr_of_ne hu1 fun e => hvnd.1 ((k2 ▸ e) ▸ List.mem_map_of_mem hu), hu2⟩
  · rcases mem_replaceCtr hd with rfl | ⟨hd, hne⟩
    · exact hRc _ _ k3
    · exact hR (hr d hd) hs.steps fun o ho => hs.frame o (own_disjoint hnd hd hv (k2 ▸ hne) o ho)
  · rcases mem_replaceCtr hd with rfl | ⟨hd, _⟩
    · exact (kill_ok hk).2.1 ▸ killedCtr_inv (hinv v hv)
    · exact hinv d hd

theorem killVictims_pass {cfg : Cfg} {R : Store → Ctr → Prop} {capR : Nat} (hR : Framed R) (hRc : ∀ w c, c.completed = true → R w c)
    {vs act act' : List Ctr} {w w' : Store} {cons cons' : Int} (h : killVictims w capR act cons vs = .ok (w', act', cons')) :
    (cids act).Nodup → (cids vs).Nodup → (∀ v ∈ vs, v ∈ act ∧ v.completed = false) → (own act).Nodup → (∀ c ∈ act, R w c) →
    (∀ c ∈ act, CtrInv cfg c) →
    (own act').Sublist (own act) ∧ (∀ o, o ∉ own act → w'.stOf o = w.stOf o) ∧ (∀ c ∈ act', R w' c) ∧ ∀ c ∈ act', CtrInv cfg c := by
  induction h using killVictims_induct with
  | stop => intro _ _ _ _ hr hinv; exact ⟨.refl _, fun _ _ => rfl, hr, hinv⟩
  | kill _ _ hk _ ih =>
    intro hcn hvnd hsub hnd hr hinv
    obtain ⟨a1, a2, a3, a4, a5, hsl, hf⟩ := kill_victim hR hRc hk hcn hvnd hsub hnd hr hinv
    obtain ⟨i1, i2, i3, i4⟩ := ih a1 (List.nodup_cons.mp hvnd).2 a2 a3 a4 a5
    exact ⟨i1.trans hsl, fun o ho => by rw [i2 o fun hx => ho (hsl.subset hx), hf o ho], i3, i4⟩

theorem victims_ok {act : List Ctr} (hcn : (cids act).Nodup) :
    (∀ v ∈ sortDesc (oomCandidates act), v ∈ act ∧ v.completed = false) ∧ (cids (sortDesc (oomCandidates act))).Nodup := by
  refine ⟨fun v hv => ?_, ?_⟩
  · obtain ⟨h1, h2⟩ := List.mem_filter.mp (mem_sortDesc hv)
    simp only [Bool.and_eq_true, Bool.not_eq_true', decide_eq_true_eq] at h2
    exact ⟨h1, h2.1⟩
  · exact ((SortP.sortDesc_perm scoreGe (oomCandidates act)).map _).nodup_iff.mpr ((cids_filter_sublist act _).nodup hcn)

theorem oomKiller_pass {cfg : Cfg} {R : Store → Ctr → Prop} (hR : Framed R) (hRc : ∀ w c, c.completed = true → R w c) {w w' : Store} {p p' : Pool}
    (hcn : (cids p.active).Nodup) (hinv : ∀ c ∈ p.active, CtrInv cfg c ∧ (c.completed = true → c.mem ≤ c.ram))
    (hnd : (own p.active).Nodup) (hr : ∀ c ∈ p.active, R w c) (h : oomKiller w p = .ok (w', p')) :
    (own p'.active).Sublist (own p.active) ∧ (∀ o, o ∉ own p.active → w'.stOf o = w.stOf o) ∧ (∀ c ∈ p'.active, R w' c) ∧
    (∀ c ∈ p'.active, CtrInv cfg c) ∧ p'.suspending = p.suspending := by
  obtain ⟨w1, act1, cons1, hk, hcase⟩ := oomKiller_ok h
  obtain ⟨hp, linv⟩ := killIndividual_owned hRc hk hinv
  obtain ⟨_, s1, s2, s3⟩ := hp.live hR hnd hr
  rw [filter_allAlive] at s1 s3
  rcases hcase with ⟨_, rfl, rfl⟩ | ⟨_, act2, cons2, hv, rfl⟩
  · exact ⟨s1, s2, s3, linv, rfl⟩
  · have hcn1 : (cids act1).Nodup := by rw [cids_of_ident (killIndividual_ident hk)]; exact hcn
    obtain ⟨hsub, hvnd⟩ := victims_ok hcn1
    obtain ⟨v1, v2, v3, v4⟩ := killVictims_pass hR hRc hv hcn1 hvnd hsub (s1.nodup hnd) s3 linv
    exact ⟨v1.trans s1, fun o ho => by rw [v2 o fun hx => ho (s1.subset hx), s2 o ho], v3, v4, rfl⟩

/-- `l'` owns no more than `l`, counted with multiplicity.  By count because the phases of a pool tick give different relations (suspending moves
containers between the lists: a `Perm`; running and killing drop operators: a `Sublist`), and the loop over the pools closes its `Nodup` goals
from `count ≤ 1` by `omega`. -/
def Shrinks (l' l : List Nat) : Prop := ∀ o, l'.count o ≤ l.count o

theorem Shrinks.refl (l : List Nat) : Shrinks l l := fun _ => Nat.le_refl _
theorem Shrinks.trans {a b c : List Nat} (h1 : Shrinks a b) (h2 : Shrinks b c) : Shrinks a c := fun o => Nat.le_trans (h1 o) (h2 o)
theorem Shrinks.of_sublist {a b : List Nat} (h : a.Sublist b) : Shrinks a b := fun o => h.count_le o
theorem Shrinks.of_perm {a b : List Nat} (h : a.Perm b) : Shrinks a b := fun o => Nat.le_of_eq (h.count_eq o)
theorem Shrinks.nodup {a b : List Nat} (h : Shrinks a b) (hb : b.Nodup) : a.Nodup :=
  List.nodup_iff_count.mpr fun o => Nat.le_trans (h o) (List.nodup_iff_count.mp hb o)
theorem Shrinks.mem {a b : List Nat} (h : Shrinks a b) {o : Nat} (ho : o ∈ a) : o ∈ b :=
  List.one_le_count_iff.mp (Nat.le_trans (List.one_le_count_iff.mpr ho) (h o))
theorem Shrinks.append {a b c d : List Nat} (h1 : Shrinks a b) (h2 : Shrinks c d) : Shrinks (a ++ c) (b ++ d) := by
  intro o; rw [List.count_append, List.count_append]; have := h1 o; have := h2 o; omega

def ownP (p : Pool) : List Nat := own (p.active ++ p.suspending)

theorem ownP_eq (p : Pool) : ownP p = own p.active ++ own p.suspending := own_append _ _

theorem own_remove {l : List Ctr} {k : Nat} {c : Ctr} (h : findCtr l k = some c) (hnd : (cids l).Nodup) :
    (ownOf c ++ own (l.filter (·.cid != k))).Perm (own l) := by
  induction l with
  | nil => cases h
  | cons x xs ih =>
    rw [cids_cons, List.nodup_cons] at hnd
    rw [findCtr, List.find?_cons] at h
    rw [List.filter_cons, own_cons]
    split at h
    · rename_i hx
      obtain rfl := Option.some.inj h
      have hk : x.cid = k := beq_iff_eq.mp hx
      have hfil : xs.filter (·.cid != k) = xs :=
        List.filter_eq_self.mpr fun y hy => bne_iff_ne.mpr fun e => hnd.1 (hk ▸ e ▸ List.mem_map_of_mem hy)
      rw [hk, bne_self_eq_false, hfil]
      exact .refl _
    · rename_i hx
      have hne : (x.cid != k) = true := by simpa [bne] using hx
      rw [hne, if_pos rfl, own_cons]
      exact (List.perm_append_comm_assoc _ _ _).trans ((ih h hnd.2).append_left _)

structure PoolLive (cfg : Cfg) (w : Store) (p : Pool) : Prop where
  inv : ∀ c ∈ p.active ++ p.suspending, CtrInv cfg c
  nc : ∀ c ∈ p.active ++ p.suspending, c.completed = false
  nd : (ownP p).Nodup
  busy : BusyAll w (p.active ++ p.suspending)

theorem PoolLive.busyOn {cfg : Cfg} {w : Store} {p : Pool} (h : PoolLive cfg w p) : ∀ c ∈ p.active ++ p.suspending, BusyOn w c :=
  busyAll_iff.mp h.busy

theorem PoolLive.reconcile {cfg : Cfg} {w : Store} {p : Pool} (h : PoolLive cfg w p) : PoolLive cfg w p.reconcile := ⟨h.inv, h.nc, h.nd, h.busy⟩

theorem PoolLive.mem {cfg : Cfg} {w : Store} {p : Pool} (h : PoolLive cfg w p) {c : Ctr} (hc : c ∈ p.active ++ p.suspending) :
    CtrInv cfg c ∧ c.completed = false ∧ BusyOn w c := ⟨h.inv c hc, h.nc c hc, h.busyOn c hc⟩

theorem PoolLive.of_mem {cfg : Cfg} {w : Store} {p : Pool} (h : ∀ c ∈ p.active ++ p.suspending, CtrInv cfg c ∧ c.completed = false ∧ BusyOn w c)
    (nd : (ownP p).Nodup) : PoolLive cfg w p :=
  ⟨fun c hc => (h c hc).1, fun c hc => (h c hc).2.1, nd, busyAll_iff.mpr fun c hc => (h c hc).2.2⟩

theorem susp_cid_ne {p : Pool} {n k : Nat} {c : Ctr} (pinv : PoolInv p n) (hfind : findCtr p.active k = some c) :
    ∀ d ∈ p.suspending, d.cid ≠ k := fun d hd e =>
  (List.nodup_append.mp pinv.nodup).2.2 c.cid (List.mem_map_of_mem (List.mem_of_find?_eq_some hfind)) d.cid (List.mem_map_of_mem hd)
    ((find_remove hfind (List.nodup_append.mp pinv.nodup).1).1.trans e.symm)

theorem suspendOne_live {cfg : Cfg} {w w1 : Store} {p : Pool} {n k : Nat} {c c1 : Ctr} (pinv : PoolInv p n) (hl : PoolLive cfg w p)
    (hfind : findCtr p.active k = some c) (hsus : c.suspend cfg w = .ok (w1, c1)) :
    PoolInv { p with suspending := p.suspending ++ [c1], active := p.active.filter (·.cid != k) } n ∧
    PoolLive cfg w1 { p with suspending := p.suspending ++ [c1], active := p.active.filter (·.cid != k) } ∧
    (ownP { p with suspending := p.suspending ++ [c1], active := p.active.filter (·.cid != k) }).Perm (ownP p) ∧
    (∀ o, o ∉ ownOf c → w1.stOf o = w.stOf o) ∧
    ∀ x ∈ p.active ++ p.suspending, x.cid ≠ k → ∀ o ∈ ownOf x, w1.stOf o = w.stOf o := by
  obtain ⟨e1, st⟩ := suspend_live hsus
  have hcn : (cids p.active).Nodup := (List.nodup_append.mp pinv.nodup).1
  have hck := (find_remove hfind hcn).1
  have hcmem : c ∈ p.active ++ p.suspending := List.mem_append_left _ (List.mem_of_find?_eq_some hfind)
  have hcn' : c.completed = false := hl.nc c hcmem
  have hown1 : ownOf c1 = ownOf c := by rw [e1]; rfl
  have hperm : (ownP { p with suspending := p.suspending ++ [c1], active := p.active.filter (·.cid != k) }).Perm (ownP p) := by
    simp only [ownP_eq, own_append, own_cons, own_nil, List.append_nil, hown1]
    refine .trans ?_ ((own_remove hfind hcn).append_right _)
    rw [List.append_assoc]
    exact (List.perm_append_comm.append_left _).trans (List.perm_append_comm_assoc _ _ _)
  have hfoot : ∀ o, o ∉ ownOf c → w1.stOf o = w.stOf o := fun o ho => st.frame o fun t hx => ho (mem_ownOf.mpr ⟨hcn', hx.1⟩)
  have hother : ∀ x ∈ p.active ++ p.suspending, x.cid ≠ k → ∀ o ∈ ownOf x, w1.stOf o = w.stOf o := fun x hx hne o ho =>
    hfoot o (own_disjoint hl.nd hx hcmem (hck ▸ hne) o ho)
  have hmem : ∀ d ∈ p.active.filter (·.cid != k) ++ (p.suspending ++ [c1]), d = c1 ∨ (d ∈ p.active ++ p.suspending ∧ d.cid ≠ k) := by
    intro d hd
    simp only [List.mem_append, List.mem_filter, List.mem_singleton] at hd
    rcases hd with ⟨hd, hne⟩ | hd | rfl
    · exact .inr ⟨List.mem_append_left _ hd, by simpa using hne⟩
    · exact .inr ⟨List.mem_append_right _ hd, susp_cid_ne pinv hfind d hd⟩
    · exact .inl rfl
  refine ⟨suspendOne_inv pinv hfind (suspend_ident hsus), .of_mem (fun d hd => ?_) (hperm.nodup_iff.mpr hl.nd), hperm, hfoot, hother⟩
  rcases hmem d hd with rfl | ⟨hd, hne⟩
  · refine ⟨e1 ▸ (hl.inv c hcmem).congr rfl rfl rfl, by rw [e1]; exact hcn', fun o ho => ?_⟩
    rw [hown1] at ho
    exact st.keeps o Busy (fun t hx => hx.2 ▸ .inr (.inr rfl)) (hl.busyOn c hcmem o ho)
  · exact ⟨hl.inv d hd, hl.nc d hd, fun o ho => hother d hd hne o ho ▸ hl.busyOn d hd o ho⟩

theorem doSuspends_live {cfg : Cfg} {l : List Nat} {w w' : Store} {p p' : Pool} {n : Nat}
    (h : doSuspends cfg w p l = .ok (w', p')) : PoolInv p n → PoolLive cfg w p →
    PoolLive cfg w' p' ∧ Shrinks (ownP p') (ownP p) ∧ (∀ o, o ∉ ownP p → w'.stOf o = w.stOf o) := by
  induction h using doSuspends_induct with
  | nil => intro _ hl; exact ⟨hl, .refl _, fun _ _ => rfl⟩
  | @cons w p k _ c _ _ _ _ _ hfind hsus _ ih =>
    intro pinv hl
    obtain ⟨pinv1, hl1, hperm, hfoot, _⟩ := suspendOne_live pinv hl hfind hsus
    obtain ⟨i1, i2, i3⟩ := ih pinv1 hl1
    refine ⟨i1, i2.trans (.of_perm hperm), fun o ho => ?_⟩
    rw [i3 o fun hx => ho (hperm.mem_iff.mp hx), hfoot o fun hx => ho ?_]
    rw [ownP_eq]
    exact List.mem_append_left _ (mem_own_iff.mpr ⟨c, List.mem_of_find?_eq_some hfind, hx⟩)

theorem mkCtr_inv (cfg : Cfg) (w : Store) (cid : Nat) (a : Asg) (hnd : a.ops.Nodup) (hseg : ∀ r ∈ a.ops, w.segsOf r ≠ []) :
    CtrInv cfg (mkCtr w cid a) ∧ (mkCtr w cid a).completed = false ∧ ownOf (mkCtr w cid a) = a.ops := by
  refine ⟨⟨⟨fun h => by simp [mkCtr, mkPos] at h, ?_, ?_⟩, hnd⟩, rfl, rfl⟩
  · intro o ho
    simp only [mkCtr, mkPos, List.mem_map] at ho
    obtain ⟨r, hr, rfl⟩ := ho
    exact hseg r hr
  · simp [mkCtr, mkPos, posUnf, Function.comp_def]

/-- the pool after creating container `c` for assignment `a` (the recursive step of `startAll`) -/
def Pool.plus (p : Pool) (a : Asg) (c : Ctr) : Pool :=
  { p with availC := p.availC - a.cpu, availR := p.availR - a.ram, active := p.active ++ [c], created := p.created + 1 }

theorem poolLive_plus {cfg : Cfg} {w : Store} {p : Pool} {a : Asg} {c : Ctr} (hl : PoolLive cfg w p) (hi : CtrInv cfg c)
    (hn : c.completed = false) (hb : BusyOn w c) (hnd : (ownP p ++ ownOf c).Nodup) :
    PoolLive cfg w (p.plus a c) ∧ (ownP (p.plus a c)).Perm (ownP p ++ ownOf c) := by
  have hperm : (ownP (p.plus a c)).Perm (ownP p ++ ownOf c) := by
    simp only [ownP_eq, Pool.plus, own_append, own_cons, own_nil, List.append_nil, List.append_assoc]
    exact List.perm_append_comm.append_left _
  have hmem : ∀ d ∈ (p.plus a c).active ++ (p.plus a c).suspending, d = c ∨ d ∈ p.active ++ p.suspending := by
    intro d hd
    simp only [Pool.plus, List.mem_append, List.mem_singleton] at hd ⊢
    rcases hd with (hd | rfl) | hd
    · exact .inr (.inl hd)
    · exact .inl rfl
    · exact .inr (.inr hd)
  refine ⟨.of_mem (fun d hd => ?_) (hperm.nodup_iff.mpr hnd), hperm⟩
  rcases hmem d hd with rfl | hd
  · exact ⟨hi, hn, hb⟩
  · exact hl.mem hd

theorem startAll_live {cfg : Cfg} {w : Store} {as : List Asg} {p p' : Pool} {n n' : Nat}
    (h : startAll cfg w p n as = .ok (p', n')) : PoolLive cfg w p →
    (∀ a ∈ as, a.ops.Nodup ∧ (∀ r ∈ a.ops, w.segsOf r ≠ [] ∧ Busy (w.stOf r))) →
    (ownP p ++ as.flatMap (·.ops)).Nodup →
    PoolLive cfg w p' ∧ (ownP p').Perm (ownP p ++ as.flatMap (·.ops)) := by
  induction h using startAll_induct with
  | nil => intro hl _ _; exact ⟨hl, by simp⟩
  | @cons p n a rest _ _ _ _ _ ih =>
    intro hl ha hnd
    obtain ⟨an, aseg⟩ := ha a List.mem_cons_self
    obtain ⟨m1, m2, m3⟩ := mkCtr_inv cfg w n a an fun r hr => (aseg r hr).1
    rw [List.flatMap_cons, ← List.append_assoc] at hnd
    obtain ⟨hl1, hperm1⟩ := poolLive_plus (a := a) hl m1 m2 (fun o ho => (aseg o (m3 ▸ ho)).2) (m3 ▸ (List.nodup_append.mp hnd).1)
    rw [m3] at hperm1
    obtain ⟨i1, i2⟩ := ih hl1 (fun b hb => ha b (List.mem_cons_of_mem _ hb)) ((hperm1.append_right _).nodup_iff.mpr hnd)
    exact ⟨i1, i2.trans (by rw [List.flatMap_cons, ← List.append_assoc]; exact hperm1.append_right _)⟩

theorem own_filter_live (l : List Ctr) : own (l.filter (fun c => !c.completed)) = own l := by
  unfold own; rw [List.filter_filter]; simp

theorem suspTickAll_pass {cfg : Cfg} {RA RS : Store → Ctr → Prop} (hRA : Framed RA) (hRS : Framed RS) {w w3 : Store} {p p3 : Pool}
    (hl : PoolLive cfg w p) (keepS : ∀ c ∈ p.suspending, ∀ {w : Store} (s : Int), RS w c → RS w { c with suspLeft := s })
    (ra : ∀ c ∈ p.active, RA w c) (rs : ∀ c ∈ p.suspending, RS w c) (h : suspTickAll w p = .ok (w3, p3)) :
    Steps w w3 ∧ p3.active = p.active ∧ p3.consumed = p.consumed ∧ (∀ c ∈ p3.suspending, CtrInv cfg c ∧ c.completed = false) ∧
    (own p3.suspending).Sublist (own p.suspending) ∧ (∀ o, o ∉ own p.suspending → w3.stOf o = w.stOf o) ∧
    (∀ c ∈ p.active, RA w3 c) ∧ ∀ c ∈ p3.suspending, RS w3 c := by
  obtain ⟨l3, hl3, rfl⟩ := suspTickAll_ok h
  have hnd := hl.nd
  rw [ownP_eq] at hnd
  obtain ⟨ps, linv⟩ := suspTickList_owned (R := RS) hl3
    (fun c hc => ⟨hl.inv c (List.mem_append_right _ hc), hl.nc c (List.mem_append_right _ hc)⟩) keepS
  obtain ⟨st, s1, s2, s3⟩ := ps.live hRS (List.nodup_append.mp hnd).2.1 rs
  refine ⟨st, rfl, rfl, fun c hc => linv c (List.mem_filter.mp hc).1, s1, s2, fun c hc => ?_, s3⟩
  exact hRA (ra c hc) st fun o ho => s2 o fun hx => (List.nodup_append.mp hnd).2.2 o (mem_own_iff.mpr ⟨c, hc, ho⟩) o hx rfl

/-- phases 3–6 of a pool tick, for whatever the single steps keep: `RA` on the active, `RS` on the suspending list -/
theorem poolRun_pass {cfg : Cfg} {RA RS : Store → Ctr → Prop} (hRA : Framed RA) (hRAc : ∀ w c, c.completed = true → RA w c) (hRS : Framed RS)
    {w w' : Store} {p p' : Pool} {n : Nat} {res : List Res} (pinv : PoolInv p n) (m : MemOK p) (hl : PoolLive cfg w p)
    (keepA : ∀ c ∈ p.active, ∀ {w w' c' cons cons'}, c.tick cfg w cons = .ok (w', c', cons') → RA w c → RA w' c')
    (keepS : ∀ c ∈ p.suspending, ∀ {w : Store} (s : Int), RS w c → RS w { c with suspLeft := s })
    (ra : ∀ c ∈ p.active, RA w c) (rs : ∀ c ∈ p.suspending, RS w c) (h : poolRun cfg w p = .ok (w', p', res)) :
    (∀ c ∈ p'.active ++ p'.suspending, CtrInv cfg c ∧ c.completed = false) ∧
    (own p'.active).Sublist (own p.active) ∧ (own p'.suspending).Sublist (own p.suspending) ∧
    (∀ o, o ∉ ownP p → w'.stOf o = w.stOf o) ∧ (∀ c ∈ p'.active, RA w' c) ∧ ∀ c ∈ p'.suspending, RS w' c := by
  obtain ⟨w3, p3, w4, act4, cons4, p5, h3, h4, h5, rfl, _⟩ := poolRun_ok h
  have hnd := hl.nd
  rw [ownP_eq] at hnd
  obtain ⟨ndA, _, hdisj⟩ := List.nodup_append.mp hnd
  obtain ⟨st3, a3, _, linv, s1, s2, ra3, rs3⟩ := suspTickAll_pass hRA hRS hl keepS ra rs h3
  rw [a3] at h4
  have hinvA : ∀ c ∈ p.active, CtrInv cfg c ∧ (c.completed = false → c.frozen = false) :=
    fun c hc => ⟨hl.inv c (List.mem_append_left _ hc), fun _ => (m.ok c hc).2.1⟩
  obtain ⟨pt, tinv⟩ := tickAll_owned (R := RA) h4 hinvA keepA
  obtain ⟨st4, t2, t3, t4⟩ := pt.live hRA ndA ra3
  rw [filter_allAlive] at t2 t4
  obtain ⟨_, tk⟩ := tickAll_mem m.ok h4
  have hcn4 : (cids act4).Nodup := by rw [cids_of_ident (tickAll_ident h4)]; exact (List.nodup_append.mp pinv.nodup).1
  obtain ⟨k1, k2, k3, k4, k5⟩ := oomKiller_pass hRA hRAc (p := { p3 with active := act4, consumed := cons4 }) hcn4
    (fun c hc => ⟨tinv c hc, fun hcc => by have := (tk c hc).1 hcc; omega⟩) (t2.nodup ndA) t4 h5
  rw [(collect_spec p5).active, (collect_spec p5).suspending, k5]
  have hframe : ∀ o, o ∉ own p.active → w'.stOf o = w3.stOf o := fun o ho => by rw [k2 o fun hx => ho (t2.subset hx), t3 o ho]
  refine ⟨fun c hc => ?_, ?_, s1, fun o ho => ?_, fun c hc => k3 c (List.mem_filter.mp hc).1, fun c hc => ?_⟩
  · rcases List.mem_append.mp hc with hc | hc
    · exact ⟨k4 c (List.mem_filter.mp hc).1, by simpa using (List.mem_filter.mp hc).2⟩
    · exact linv c hc
  · rw [own_filter_live]; exact k1.trans t2
  · rw [ownP_eq, List.mem_append, not_or] at ho
    rw [hframe o ho.1, s2 o ho.2]
  · exact hRS (rs3 c hc) (st4.trans (oomKiller_steps h5)) fun o ho =>
      hframe o fun hx => hdisj o hx o (s1.subset (mem_own_iff.mpr ⟨c, hc, ho⟩)) rfl

theorem poolRun_live {cfg : Cfg} {w w' : Store} {p p' : Pool} {n : Nat} {res : List Res} (pinv : PoolInv p n) (m : MemOK p)
    (hl : PoolLive cfg w p) (h : poolRun cfg w p = .ok (w', p', res)) :
    PoolLive cfg w' p' ∧ Shrinks (ownP p') (ownP p) ∧ (∀ o, o ∉ ownP p → w'.stOf o = w.stOf o) := by
  have hb := hl.busyOn
  obtain ⟨hi, sA, sS, hf, ra, rs⟩ := poolRun_pass busyOn_framed (fun _ _ => busyOn_of_completed) busyOn_framed pinv m hl
    (fun c hc => tick_busy (hl.inv c (List.mem_append_left _ hc)) fun _ => (m.ok c hc).2.1) (fun _ _ _ _ hr => hr)
    (fun c hc => hb c (List.mem_append_left _ hc)) (fun c hc => hb c (List.mem_append_right _ hc)) h
  have hnd := hl.nd
  rw [ownP_eq] at hnd
  refine ⟨.of_mem (fun c hc => ⟨(hi c hc).1, (hi c hc).2, (List.mem_append.mp hc).elim (ra c) (rs c)⟩) ?_, ?_, hf⟩
  · rw [ownP_eq]; exact (sA.append sS).nodup hnd
  · rw [ownP_eq, ownP_eq]; exact .of_sublist (sA.append sS)

def AsgsOK (w : Store) (as : List Asg) : Prop :=
  ∀ a ∈ as, a.ops.Nodup ∧ (∀ r ∈ a.ops, w.segsOf r ≠ [] ∧ w.stOf r = assigned)

theorem Steps.segsOf {a b : Store} (h : Steps a b) (r : Nat) : b.segsOf r = a.segsOf r := by
  unfold Store.segsOf; rw [h.ops]

theorem AsgsOK.frame {w w1 : Store} {as : List Asg} (ha : AsgsOK w as) (hst : Steps w w1)
    (hf : ∀ a ∈ as, ∀ r ∈ a.ops, w1.stOf r = w.stOf r) : AsgsOK w1 as := fun a haa =>
  ⟨(ha a haa).1, fun r hr => ⟨hst.segsOf r ▸ ((ha a haa).2 r hr).1, (hf a haa r hr).trans ((ha a haa).2 r hr).2⟩⟩

theorem stepsP_segs {P : Nat → OpState → Prop} {a b : Store} (h : StepsP P a b) (r : Nat) : b.segsOf r = a.segsOf r :=
  h.steps.segsOf r

/-- a whole pool tick keeps the ownership invariant: what the pool's live containers own afterwards is part of what they and the assignments
handed in owned before, and no operator outside that has changed state -/
theorem poolTick_live {cfg : Cfg} {w w' : Store} {p p' : Pool} {n n' : Nat} {cm : Cmds} {res : List Res}
    (g : PoolGoodMem cfg p n) (hl : PoolLive cfg w p) (ha : AsgsOK w cm.asgs) (hnd : (ownP p ++ cm.asgs.flatMap (·.ops)).Nodup)
    (h : poolTick cfg w p n cm = .ok (w', p', n', res)) :
    PoolLive cfg w' p' ∧ Shrinks (ownP p') (ownP p ++ cm.asgs.flatMap (·.ops)) ∧
    (∀ o, o ∉ ownP p ++ cm.asgs.flatMap (·.ops) → w'.stOf o = w.stOf o) := by
  obtain ⟨w1, p1, p2, _, hs, _, hst, hr⟩ := poolTick_ok h
  have m1 := susPhase_mem g.2 hs
  obtain ⟨g1, _, _⟩ := susPhase_inv g.1 hs
  obtain ⟨p0, hd, hp1⟩ := susPhase_ok hs
  obtain ⟨d1, sh1, fr1⟩ := doSuspends_live hd g.1.1 hl
  have l1 : PoolLive cfg w1 p1 ∧ ownP p1 = ownP p0 := by
    rcases hp1 with rfl | ⟨_, rfl⟩
    · exact ⟨d1.reconcile, rfl⟩
    · exact ⟨d1, rfl⟩
  rw [← l1.2] at sh1
  have m2 := startAll_mem m1 hst
  obtain ⟨i2, _⟩ := startAll_inv g1.1 hst
  have ha1 : ∀ a ∈ cm.asgs, a.ops.Nodup ∧ (∀ r ∈ a.ops, w1.segsOf r ≠ [] ∧ Busy (w1.stOf r)) := by
    intro a haa
    obtain ⟨x1, x2⟩ := ha a haa
    refine ⟨x1, fun r hr => ⟨(doSuspends_steps hd).segsOf r ▸ (x2 r hr).1, ?_⟩⟩
    rw [fr1 r fun hx => (List.nodup_append.mp hnd).2.2 r hx r (List.mem_flatMap.mpr ⟨a, haa, hr⟩) rfl, (x2 r hr).2]
    exact .inl rfl
  obtain ⟨l2, pm2⟩ := startAll_live hst l1.1 ha1 ((sh1.append (.refl _)).nodup hnd)
  obtain ⟨r1, r2, r3⟩ := poolRun_live i2 m2 l2 hr
  have sh2 : Shrinks (ownP p2) (ownP p ++ cm.asgs.flatMap (·.ops)) := (Shrinks.of_perm pm2).trans (sh1.append (.refl _))
  refine ⟨r1, r2.trans sh2, fun o ho => ?_⟩
  rw [r3 o fun hx => ho (sh2.mem hx), fr1 o fun hx => ho (List.mem_append_left _ hx)]

def opsOf (as : List Asg) : List Nat := as.flatMap (·.ops)

/-- assignments whose pool has not been ticked yet when pool `i` is about to be -/
def pendFor (asgs : List Asg) (i : Nat) : List Asg := asgs.filter (fun a => decide (i ≤ a.pool))

theorem count_pend_split (asgs : List Asg) (i o : Nat) :
    (opsOf (pendFor asgs i)).count o = (opsOf (asgs.filter (·.pool == i))).count o + (opsOf (pendFor asgs (i + 1))).count o := by
  have e1 : (pendFor asgs i).filter (·.pool == i) = asgs.filter (·.pool == i) := by
    rw [pendFor, List.filter_filter]
    refine List.filter_congr fun a _ => Bool.eq_iff_iff.mpr ?_
    simp only [Bool.and_eq_true, beq_iff_eq, decide_eq_true_eq]
    omega
  have e2 : (pendFor asgs i).filter (fun a => !(a.pool == i)) = pendFor asgs (i + 1) := by
    rw [pendFor, List.filter_filter]
    refine List.filter_congr fun a _ => Bool.eq_iff_iff.mpr ?_
    simp only [Bool.and_eq_true, Bool.not_eq_true', beq_eq_false_iff_ne, decide_eq_true_eq]
    omega
  have hp := (List.filter_append_perm (·.pool == i) (pendFor asgs i)).flatMap_right (·.ops)
  rw [opsOf, ← hp.count_eq o, List.flatMap_append, List.count_append, e1, e2]
  rfl

theorem count_le_flatMap {α : Type} (f : α → List Nat) (l : List α) (q : α) (hq : q ∈ l) (o : Nat) : (f q).count o ≤ (l.flatMap f).count o := by
  rw [List.flatMap_def]; exact (List.sublist_flatten_of_mem (List.mem_map_of_mem hq)).count_le o

/-- the loop invariant of `execPools` -/
structure PoolsLive (cfg : Cfg) (asgs : List Asg) (s : Store) (n : Nat) (done todo : List Pool) : Prop where
  pools : ∀ p ∈ done ++ todo, PoolGoodMem cfg p n ∧ PoolLive cfg s p
  nd : ((done ++ todo).flatMap ownP ++ opsOf (pendFor asgs done.length)).Nodup
  pend : AsgsOK s (pendFor asgs done.length)

theorem poolLive_frame {cfg : Cfg} {s s1 : Store} {q : Pool} (h : PoolLive cfg s q) (hf : ∀ o ∈ ownP q, s1.stOf o = s.stOf o) : PoolLive cfg s1 q :=
  ⟨h.inv, h.nc, h.nd, busyAll_frame h.busy hf⟩

theorem mem_pendFor {asgs : List Asg} {a : Asg} {i : Nat} (ha : a ∈ asgs) (h : i ≤ a.pool) : a ∈ pendFor asgs i :=
  List.mem_filter.mpr ⟨ha, decide_eq_true h⟩

theorem mem_pendFor_succ {asgs : List Asg} {a : Asg} {i : Nat} (h : a ∈ pendFor asgs (i + 1)) : a ∈ pendFor asgs i :=
  mem_pendFor (List.mem_filter.mp h).1 (Nat.le_of_succ_le (of_decide_eq_true (List.mem_filter.mp h).2))

theorem forall_mem_stepped {α : Type} {P : α → Prop} {done rest : List α} {x : α} (hx : P x) (ho : ∀ q ∈ done ++ rest, P q) :
    ∀ q ∈ done ++ [x] ++ rest, P q := by
  intro q hq
  simp only [List.mem_append, List.mem_singleton] at hq
  rcases hq with (hq | rfl) | hq
  · exact ho q (List.mem_append_left _ hq)
  · exact hx
  · exact ho q (List.mem_append_right _ hq)

theorem mem_append_cons_of_mem {α : Type} {q : α} {l r : List α} (x : α) (h : q ∈ l ++ r) : q ∈ l ++ x :: r :=
  List.mem_append.mpr ((List.mem_append.mp h).imp_right (List.mem_cons_of_mem _))

theorem PoolsLive.count_le {cfg : Cfg} {asgs : List Asg} {s : Store} {n : Nat} {done rest : List Pool} {p : Pool}
    (hJ : PoolsLive cfg asgs s n done (p :: rest)) (o : Nat) :
    (done.flatMap ownP).count o + (ownP p).count o + (rest.flatMap ownP).count o +
      ((opsOf (asgs.filter (·.pool == done.length))).count o + (opsOf (pendFor asgs (done.length + 1))).count o) ≤ 1 := by
  have := List.nodup_iff_count.mp hJ.nd o
  simp only [List.flatMap_append, List.flatMap_cons, List.count_append, count_pend_split asgs done.length o] at this
  omega

theorem mem_opsOf_pendFor {asgs : List Asg} {k o : Nat} :
    o ∈ opsOf (pendFor asgs k) ↔ o ∈ opsOf (asgs.filter (·.pool == k)) ∨ o ∈ opsOf (pendFor asgs (k + 1)) := by
  rw [← List.count_pos_iff, ← List.count_pos_iff, ← List.count_pos_iff, count_pend_split asgs k o]
  omega

theorem not_mem_todo_split {asgs : List Asg} {p : Pool} {rest : List Pool} {k o : Nat}
    (h : o ∉ (p :: rest).flatMap ownP ++ opsOf (pendFor asgs k)) :
    o ∉ ownP p ++ opsOf (asgs.filter (·.pool == k)) ∧ o ∉ rest.flatMap ownP ++ opsOf (pendFor asgs (k + 1)) := by
  simp only [List.flatMap_cons, List.mem_append, not_or] at h ⊢
  rw [mem_opsOf_pendFor, not_or] at h
  exact ⟨⟨h.1.1, h.2.1⟩, h.1.2, h.2.2⟩

theorem poolsLive_mine {cfg : Cfg} {asgs : List Asg} {s : Store} {n : Nat} {done rest : List Pool} {p : Pool}
    (hJ : PoolsLive cfg asgs s n done (p :: rest)) {o : Nat} (ho : o ∈ ownP p ++ opsOf (asgs.filter (·.pool == done.length))) :
    o ∉ rest.flatMap ownP ++ opsOf (pendFor asgs (done.length + 1)) := by
  intro hx
  have hc := hJ.count_le o
  have h1 := List.count_pos_iff.mpr ho
  have h2 := List.count_pos_iff.mpr hx
  simp only [List.count_append] at h1 h2
  omega

theorem poolsLive_head {cfg : Cfg} {sus : List (Nat × Nat)} {asgs : List Asg} {s : Store} {n : Nat} {done rest : List Pool} {p : Pool}
    (hJ : PoolsLive cfg asgs s n done (p :: rest)) :
    (ownP p ++ (cmdsFor done.length sus asgs).asgs.flatMap (·.ops)).Nodup ∧ AsgsOK s (cmdsFor done.length sus asgs).asgs ∧
    (∀ a ∈ (cmdsFor done.length sus asgs).asgs, a ∈ pendFor asgs done.length) := by
  have hsubp : ∀ a ∈ asgs.filter (·.pool == done.length), a ∈ pendFor asgs done.length := fun a ha =>
    mem_pendFor (List.mem_filter.mp ha).1 (Nat.le_of_eq (beq_iff_eq.mp (List.mem_filter.mp ha).2).symm)
  refine ⟨List.nodup_iff_count.mpr fun o => ?_, fun a ha => hJ.pend a (hsubp a ha), hsubp⟩
  have := hJ.count_le o
  show (ownP p ++ opsOf (asgs.filter (·.pool == done.length))).count o ≤ 1
  rw [List.count_append]
  omega

theorem poolsLive_step_outside {cfg : Cfg} {sus : List (Nat × Nat)} {asgs : List Asg} {s s1 : Store} {n n1 : Nat} {done rest : List Pool}
    {p p1 : Pool} {r : List Res} (hJ : PoolsLive cfg asgs s n done (p :: rest))
    (hp : poolTick cfg s p n (cmdsFor done.length sus asgs) = .ok (s1, p1, n1, r)) (o : Nat)
    (ho : (done.flatMap ownP).count o + (rest.flatMap ownP).count o + (opsOf (pendFor asgs (done.length + 1))).count o ≥ 1) :
    s1.stOf o = s.stOf o := by
  obtain ⟨gp, lp⟩ := hJ.pools p (by simp)
  obtain ⟨hnd, hapend, _⟩ := poolsLive_head (sus := sus) hJ
  refine (poolTick_live gp lp hapend hnd hp).2.2 o fun hx => ?_
  have h1 : 1 ≤ (ownP p ++ opsOf (asgs.filter (·.pool == done.length))).count o := List.one_le_count_iff.mpr hx
  have := hJ.count_le o
  rw [List.count_append] at h1
  omega

theorem poolsLive_step_frame {cfg : Cfg} {sus : List (Nat × Nat)} {asgs : List Asg} {s s1 : Store} {n n1 : Nat} {done rest : List Pool} {p p1 : Pool}
    {r : List Res} (hJ : PoolsLive cfg asgs s n done (p :: rest)) (hp : poolTick cfg s p n (cmdsFor done.length sus asgs) = .ok (s1, p1, n1, r)) :
    ∀ q ∈ done ++ rest, ∀ o ∈ ownP q, s1.stOf o = s.stOf o := by
  intro q hq o ho
  refine poolsLive_step_outside hJ hp o ?_
  have h1 := List.one_le_count_iff.mpr ho
  rcases List.mem_append.mp hq with hq | hq
  · have := count_le_flatMap ownP done q hq o; omega
  · have := count_le_flatMap ownP rest q hq o; omega

theorem poolsLive_step {cfg : Cfg} {sus : List (Nat × Nat)} {asgs : List Asg} {s s1 : Store} {n n1 : Nat} {done rest : List Pool} {p p1 : Pool} {r : List Res}
    (hJ : PoolsLive cfg asgs s n done (p :: rest)) (hp : poolTick cfg s p n (cmdsFor done.length sus asgs) = .ok (s1, p1, n1, r)) :
    PoolsLive cfg asgs s1 n1 (done ++ [p1]) rest ∧ n ≤ n1 ∧
    (∀ o, (done.flatMap ownP).count o + (rest.flatMap ownP).count o + (opsOf (pendFor asgs (done.length + 1))).count o ≥ 1 → s1.stOf o = s.stOf o) := by
  obtain ⟨gp, lp⟩ := hJ.pools p (by simp)
  obtain ⟨hnd, hapend, _⟩ := poolsLive_head (sus := sus) hJ
  obtain ⟨l1, sh1', _⟩ := poolTick_live gp lp hapend hnd hp
  have sh1 : Shrinks (ownP p1) (ownP p ++ opsOf (asgs.filter (·.pool == done.length))) := sh1'
  obtain ⟨g1, hn1⟩ := goodMem_phases.tick.ok _ _ _ _ _ _ _ _ _ gp hp
  have hother : ∀ q ∈ done ++ rest, PoolGoodMem cfg q n1 ∧ PoolLive cfg s1 q := fun q hq =>
    have ⟨gq, lq⟩ := hJ.pools q (mem_append_cons_of_mem p hq)
    ⟨goodMem_phases.mono gq hn1, poolLive_frame lq (poolsLive_step_frame hJ hp q hq)⟩
  refine ⟨⟨forall_mem_stepped ⟨g1, l1⟩ hother, List.nodup_iff_count.mpr fun o => ?_, ?_⟩, hn1, poolsLive_step_outside hJ hp⟩
  · have := hJ.count_le o
    have hs := sh1 o
    simp only [List.length_append, List.length_cons, List.length_nil, List.flatMap_append, List.flatMap_cons, List.flatMap_nil, List.append_nil,
      List.count_append, Nat.zero_add] at this hs ⊢
    omega
  · rw [List.length_append, List.length_singleton]
    refine AsgsOK.frame (fun a ha => hJ.pend a (mem_pendFor_succ ha)) (poolTick_steps_ok hp) fun a ha r hr =>
      poolsLive_step_outside hJ hp r ?_
    have : 1 ≤ (opsOf (pendFor asgs (done.length + 1))).count r := List.one_le_count_iff.mpr (List.mem_flatMap.mpr ⟨a, ha, hr⟩)
    omega

theorem execPools_live {cfg : Cfg} {sus : List (Nat × Nat)} {asgs : List Asg} {todo done ps : List Pool} {s s' : Store} {n n' : Nat}
    {res res' : List Res} (hJ : PoolsLive cfg asgs s n done todo) (h : execPools cfg sus asgs s n done todo res = .ok (s', ps, n', res')) :
    PoolsLive cfg asgs s' n' ps [] := by
  induction h using execPools_induct with
  | nil => exact hJ
  | step _ hp _ ih => exact ih (poolsLive_step hJ hp).1

end Eudoxia
