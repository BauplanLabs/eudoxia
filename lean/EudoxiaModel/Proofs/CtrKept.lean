import EudoxiaModel.Proofs.Live
import EudoxiaModel.Proofs.PoolRun
/-! A property of containers that ticks and kills preserve and that fresh containers have is kept by a whole executor tick, and every result
    comes from a container that had it.  Used twice: without suspension requests no write-out ever starts; single-operator containers stay such and
    are never offered for suspension. -/
namespace Eudoxia
open OpState Extracted

structure Kept (cfg : Cfg) (P : Ctr → Prop) : Prop where
  tick : ∀ {w : Store} {c : Ctr} {cons : Int} {w' : Store} {c' : Ctr} {cons' : Int}, c.tick cfg w cons = .ok (w', c', cons') → P c → P c'
  kill : ∀ {w : Store} {c : Ctr} {cons : Int} {w' : Store} {c' : Ctr} {cons' : Int}, c.kill w cons = .ok (w', c', cons') → P c → P c'

def AllC (P : Ctr → Prop) (l : List Ctr) : Prop := ∀ c ∈ l, P c

theorem Kept.ranTo {cfg : Cfg} {P : Ctr → Prop} (k : Kept cfg P) {c c' : Ctr} (h : RanTo cfg c c') (hc : P c) : P c' := by
  obtain ⟨c1, ⟨_, _, _, _, ht⟩, rfl | ⟨_, _, _, _, hk⟩⟩ := h
  · exact k.tick ht hc
  · exact k.kill hk (k.tick ht hc)

theorem Kept.of_ident {cfg : Cfg} {P : Ctr → Prop} (h : ∀ {c c' : Ctr}, c.Ident c' → P c → P c') : Kept cfg P :=
  ⟨fun ht => h (tick_ident ht), fun hk => h (kill_ident hk)⟩

def AllOps (P : List Nat → Prop) (l : List Ctr) : Prop := ∀ c ∈ l, P c.ops

theorem ops_kept (cfg : Cfg) (P : List Nat → Prop) : Kept cfg (fun c => P c.ops) :=
  .of_ident fun h hc => by rw [h.ops]; exact hc

theorem startAll_kept {cfg : Cfg} {w : Store} {P : Ctr → Prop} {as : List Asg} {p p' : Pool} {n n' : Nat}
    (h : startAll cfg w p n as = .ok (p', n')) (hp : AllC P p.active) (ha : ∀ a ∈ as, ∀ k, P (mkCtr w k a)) : AllC P p'.active := by
  intro c hc
  obtain ⟨_, _, new, hact, hnew⟩ := startAll_lists h
  rw [hact] at hc
  rcases List.mem_append.mp hc with hc | hc
  · exact hp c hc
  · obtain ⟨a, haa, k, rfl⟩ := hnew.mem_right hc
    exact ha a haa k

/-- The suffix `S` here and below: the lemma allows suspension requests and write-outs in progress; it is not restricted to ticks free of them. -/
theorem poolRun_keptS {cfg : Cfg} {w w' : Store} {p p' : Pool} {res : List Res} {P : Ctr → Prop} (k : Kept cfg P)
    (hp : AllC P p.active) (h : poolRun cfg w p = .ok (w', p', res)) : AllC P p'.active ∧ ∀ r ∈ res, ∃ c, P c ∧ r = mkRes c := by
  obtain ⟨l3, act5, hr⟩ := poolRun_ran h
  have h5 : AllC P act5 := fun c' hc' => let ⟨c, hc, hcc⟩ := hr.ran c' hc'; k.ranTo hcc (hp c hc)
  refine ⟨fun c hc => ?_, fun r hrr => ?_⟩
  · rw [hr.active] at hc
    exact h5 c (List.mem_filter.mp hc).1
  · rw [hr.res] at hrr
    obtain ⟨c, hc, rfl⟩ := List.mem_map.mp hrr
    exact ⟨c, h5 c (List.mem_filter.mp hc).1, rfl⟩

/-- `mkCtr` reads only the segment table of the store, which no tick changes, so the hypothesis on fresh containers is asked for every store. -/
theorem poolTick_keptS {cfg : Cfg} {w w' : Store} {p p' : Pool} {n n' : Nat} {cm : Cmds} {res : List Res} {P : Ctr → Prop} (k : Kept cfg P)
    (hp : AllC P p.active) (ha : ∀ a ∈ cm.asgs, ∀ (s : Store) j, P (mkCtr s j a))
    (h : poolTick cfg w p n cm = .ok (w', p', n', res)) : AllC P p'.active ∧ ∀ r ∈ res, ∃ c, P c ∧ r = mkRes c := by
  obtain ⟨w1, p1, p2, _, hs, _, hst, hr⟩ := poolTick_ok h
  obtain ⟨p0, hd, hact, _⟩ := susPhase_lists hs
  refine poolRun_keptS k (startAll_kept hst (fun c hc => hp c ?_) (fun a haa j => ha a haa w1 j)) hr
  rw [hact, (doSuspends_lists hd).2.1] at hc
  exact (List.mem_filter.mp hc).1

theorem mem_others {done rest : List Pool} {p q : Pool} (hq : q ∈ done ∨ q ∈ rest) : q ∈ done ++ p :: rest :=
  hq.elim (List.mem_append_left _) (fun h => List.mem_append_right _ (List.mem_cons_of_mem _ h))

theorem forall_pools_step {Q : Pool → Prop} {done rest : List Pool} {p1 : Pool} (h : ∀ q, q ∈ done ∨ q ∈ rest → Q q) (h1 : Q p1) :
    ∀ q ∈ (done ++ [p1]) ++ rest, Q q := by
  intro q hq
  rcases List.mem_append.mp hq with hq | hq
  · rcases List.mem_append.mp hq with hq | hq
    · exact h q (.inl hq)
    · rw [List.mem_singleton.mp hq]; exact h1
  · exact h q (.inr hq)

theorem execPools_keptS {cfg : Cfg} {sus : List (Nat × Nat)} {asgs : List Asg} {P : Ctr → Prop} {Q : Res → Prop} (k : Kept cfg P)
    (ha : ∀ a ∈ asgs, ∀ (s : Store) j, P (mkCtr s j a)) (hQ : ∀ c, P c → Q (mkRes c))
    {s : Store} {n : Nat} {done todo : List Pool} {res : List Res} {s' : Store} {ps : List Pool} {n' : Nat} {res' : List Res}
    (h : execPools cfg sus asgs s n done todo res = .ok (s', ps, n', res'))
    (hp : ∀ p ∈ done ++ todo, AllC P p.active) (hr : ∀ r ∈ res, Q r) : (∀ p ∈ ps, AllC P p.active) ∧ ∀ r ∈ res', Q r := by
  induction h using execPools_induct with
  | nil => exact ⟨by rwa [List.append_nil] at hp, hr⟩
  | step _ hpt _ ih =>
    obtain ⟨a1, a2⟩ := poolTick_keptS k (hp _ (List.mem_append_right _ List.mem_cons_self)) (fun a haa => ha a (List.mem_filter.mp haa).1) hpt
    refine ih (forall_pools_step (fun q hq => hp q (mem_others hq)) a1) (fun x hx => ?_)
    rcases List.mem_append.mp hx with hx | hx
    · exact hr x hx
    · obtain ⟨c, hc, rfl⟩ := a2 x hx
      exact hQ c hc

theorem execTick_kept {w1 w2 : World} {sus : List (Nat × Nat)} {asgs : List Asg} {res : List Res} {P : Ctr → Prop} (k : Kept w1.cfg P)
    (ha : ∀ a ∈ asgs, ∀ (s : Store) j, P (mkCtr s j a)) (hp : ∀ p ∈ w1.pools, AllC P p.active)
    (hx : w1.execTick sus asgs = .ok (w2, res)) : (∀ p ∈ w2.pools, AllC P p.active) ∧ ∀ r ∈ res, ∃ c, P c ∧ r = mkRes c := by
  obtain ⟨_, _, _, _, _, he, rfl⟩ := execTick_ok hx
  exact execPools_keptS k ha (fun c hc => ⟨c, hc, rfl⟩) he hp (fun _ hr => nomatch hr)

theorem poolTick_nosusp {cfg : Cfg} {w w' : Store} {p p' : Pool} {n n' : Nat} {asgs : List Asg} {res : List Res} (hs : p.suspending = [])
    (h : poolTick cfg w p n { susp := [], asgs := asgs } = .ok (w', p', n', res)) : p'.suspending = [] := by
  obtain ⟨w1, p1, p2, _, hsp, _, hst, hr⟩ := poolTick_ok h
  cases hsp
  obtain ⟨_, _, hran⟩ := poolRun_ran hr
  exact hran.nosusp (by rw [(startAll_lists hst).1, hs])

theorem execPools_nosusp {cfg : Cfg} {sus : List (Nat × Nat)} {asgs : List Asg}
    {s : Store} {n : Nat} {done todo : List Pool} {res : List Res} {s' : Store} {ps : List Pool} {n' : Nat} {res' : List Res}
    (h : execPools cfg sus asgs s n done todo res = .ok (s', ps, n', res')) (hsus : sus = [])
    (hp : ∀ p ∈ done ++ todo, p.suspending = []) : ∀ p ∈ ps, p.suspending = [] := by
  induction h using execPools_induct with
  | nil => simpa using hp
  | step _ hpt _ ih =>
    subst hsus
    exact ih (forall_pools_step (fun q hq => hp q (mem_others hq)) (poolTick_nosusp (hp _ (List.mem_append_right _ List.mem_cons_self)) hpt))

def SingleCtr (c : Ctr) : Prop := (∃ o, c.ops = [o]) ∧ 0 < c.cpu ∧ 0 < c.ram ∧ c.pos.ops.length ≤ 1 ∧ c.canSuspend = false

theorem seek_len {cfg : Cfg} {w w' : Store} {c c' : Ctr} (h : seek w cfg c = .ok (w', c')) : c'.pos.ops.length ≤ c.pos.ops.length := by
  fun_induction seek w cfg c
  case case1 => cases h
  case case2 => cases h
  case case3 w0 c0 r allsegs rest hops hs w1 hw ih => exact ih h
  case case4 w0 c0 r allsegs rest hops hs hsg ih =>
    have := ih h
    simp only at this
    rw [hops]; simp only [List.length_cons]; omega
  case case5 => cases h; exact Nat.le_refl _
  case case6 w0 c0 r allsegs rest hops hs sg io cpuT more hsg hlt ih => exact ih h

theorem runAt_single {w w' : Store} {c c' : Ctr} {cons cons' : Int} {r : Nat} {m : Nat}
    (h : runAt w c cons r true m = .ok (w', c', cons')) (hc : SingleCtr c) : SingleCtr c' := by
  obtain ⟨h1, h2, h3, h4, h5⟩ := hc
  rcases runAt_ok h with ⟨_, _, rfl, _⟩ | ⟨_, _, _, _, rfl, _⟩ | ⟨_, _, _, hl, _⟩ | ⟨_, _, _, rfl, _⟩
  · exact ⟨h1, h2, h3, h4, h5⟩
  · exact ⟨h1, h2, h3, h4, rfl⟩
  · cases hl
  · exact ⟨h1, h2, h3, h4, rfl⟩

theorem tick_single {cfg : Cfg} {w : Store} {c : Ctr} {cons : Int} {w' : Store} {c' : Ctr} {cons' : Int}
    (h : c.tick cfg w cons = .ok (w', c', cons')) (hc : SingleCtr c) : SingleCtr c' := by
  rcases tick_ok h with ⟨_, _, rfl, _⟩ | ⟨_, c1, ha, rfl⟩
  · exact hc
  · show SingleCtr c1
    rcases advance_ok ha with ⟨_, _, rfl, _⟩ | ⟨_, w2, c2, hs, hr⟩
    · exact hc
    · have hsame := seek_sameButPos hs
      obtain ⟨h1, h2, h3, h4, h5⟩ := hc
      have hlen : c2.pos.ops.length ≤ 1 := Nat.le_trans (seek_len hs) h4
      obtain ⟨r, _, rest, _, _, _, _, hops, _, hr⟩ := runTick_ok hr
      -- the position holds at most one operator, so the one being run is the last
      obtain rfl : rest = [] := by
        rw [hops] at hlen
        exact List.length_eq_zero_iff.mp (by simpa using hlen)
      refine runAt_single hr ?_
      rw [hsame]
      exact ⟨h1, h2, h3, hlen, h5⟩

theorem kill_single {w : Store} {c : Ctr} {cons : Int} {w' : Store} {c' : Ctr} {cons' : Int}
    (h : c.kill w cons = .ok (w', c', cons')) (hc : SingleCtr c) : SingleCtr c' := by
  rw [(kill_ok h).2.1]
  exact hc

theorem single_kept (cfg : Cfg) : Kept cfg SingleCtr := { tick := tick_single, kill := kill_single }

theorem mkCtr_single (w : Store) (k : Nat) (a : Asg) (h1 : ∃ o, a.ops = [o]) (h2 : 0 < a.cpu) (h3 : 0 < a.ram) : SingleCtr (mkCtr w k a) := by
  obtain ⟨o, ho⟩ := h1
  exact ⟨⟨o, ho⟩, h2, h3, by simp [mkCtr, mkPos, ho], rfl⟩

end Eudoxia
