import EudoxiaModel.Proofs.FreshWorlds
import EudoxiaModel.Proofs.NaiveExample
/-! The concrete world of `NaiveExample` (a diamond DAG, two pools, nothing started, multi-operator containers) meets every hypothesis of the priority-pool
    closed-loop theorem, with its one pipeline still to arrive. -/
namespace Eudoxia.PoolExample
open Eudoxia OpState Extracted

theorem inv : PP.PPInv (NaiveExample.world true) {} [] [0] :=
  have ni := NaiveExample.naiveInv true
  have fut := futureB_sound (NaiveExample.world true) [0] (by decide)
  PP.fresh_inv (NaiveExample.world true).cfg NaiveExample.store (NaiveExample.world true).pipes (4, 64 * 8) (4, 64 * 8) [0] rfl (by decide)
    (by decide) (by decide) (NaiveExample.wfp true) (NaiveExample.segsOK true) ni.pid ni.topo fut.1 fut.2

theorem flatten_arrivals (n : Nat) : (([0] : List Nat) :: List.replicate n []).flatten = [0] := by
  rw [List.flatten_cons, List.flatten_replicate_nil, List.append_nil]

theorem runs (n : Nat) : ∃ out, PP.loop (NaiveExample.world true) {} [] ([0] :: List.replicate n []) = .ok out := by
  obtain ⟨w', st', cs', h, _⟩ := PP.run_never_raises ([0] :: List.replicate n []) (NaiveExample.world true) {} [] (by rw [flatten_arrivals]; exact inv)
  exact ⟨_, h⟩

end Eudoxia.PoolExample
