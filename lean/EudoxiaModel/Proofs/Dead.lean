import EudoxiaModel.Proofs.Progress
import EudoxiaModel.Proofs.CtrKept
/-! What ticks, kills and starts leave behind in the operator table, phase by phase up to the OOM killer: the operators a container has got through are
    COMPLETED, and a container that ended with an error has a non-empty unfinished suffix whose operators are all FAILED.  (The invariants of
    `Live`/`Progress` speak about live containers only.) -/
namespace Eudoxia
open OpState Extracted

def PrefixDone (s : Store) (c : Ctr) : Prop := ∀ o ∈ c.ops.take c.curOpIdx, s.stOf o = completed

def DeadOK (s : Store) (c : Ctr) : Prop := c.completed = true → c.err = true → c.unfinished ≠ [] ∧ ∀ o ∈ c.unfinished, s.stOf o = failed

/-- The container `c` "has its record straight" in the store `s`: its finished prefix is COMPLETED; only an ended container carries the error flag, and
then a non-empty rest is FAILED; ended without the flag, nothing is left.  (Inside `namespace Eudoxia` this `Fin` hides the type `Fin n` of core, which
the development does not use.) -/
structure Fin (s : Store) (c : Ctr) : Prop where
  pre : PrefixDone s c
  dead : DeadOK s c
  noerr : c.completed = false → c.err = false
  done : c.completed = true → c.err = false → c.unfinished = []

theorem fin_frame {w w' : Store} {d : Ctr} (f : Fin w d) (hs : Steps w w') (hf : ∀ o ∈ d.unfinished, w'.stOf o = w.stOf o) : Fin w' d :=
  ⟨fun o ho => completed_final hs o (f.pre o ho),
   fun hc he => ⟨(f.dead hc he).1, fun o ho => by rw [hf o ho]; exact (f.dead hc he).2 o ho⟩, f.noerr, f.done⟩

theorem Fin.of_noerr {w w' : Store} {c : Ctr} (f : Fin w c) (he : c.err = false) (st : Steps w w') : Fin w' c :=
  ⟨fun o ho => completed_final st o (f.pre o ho), fun _ h => (by rw [he] at h; cases h), f.noerr, f.done⟩

theorem Fin.of_live {w w' : Store} {c : Ctr} (f : Fin w c) (hc : c.completed = false) (st : Steps w w') : Fin w' c :=
  f.of_noerr (f.noerr hc) st

theorem Fin.suspLeft {w : Store} {c : Ctr} (f : Fin w c) (k : Int) : Fin w { c with suspLeft := k } :=
  ⟨f.pre, f.dead, f.noerr, f.done⟩

theorem tick_err {cfg : Cfg} {w w' : Store} {c c' : Ctr} {cons cons' : Int} (h : c.tick cfg w cons = .ok (w', c', cons')) : c'.err = c.err := by
  rcases tick_ok h with ⟨_, _, rfl, _⟩ | ⟨_, c1, ha, rfl⟩
  · rfl
  · show c1.err = c.err
    rcases advance_ok ha with ⟨_, _, rfl, _⟩ | ⟨_, _, c2, hs, hr⟩
    · rfl
    · obtain ⟨_, _, _, hr⟩ := runTick_runAt hr
      have h2 : c2.err = c.err := by rw [seek_sameButPos hs]
      rcases runAt_ok hr with ⟨_, _, rfl, _⟩ | ⟨_, _, _, _, rfl, _⟩ | ⟨_, _, _, _, rfl, _⟩ | ⟨_, _, _, rfl, _⟩ <;> exact h2

theorem mem_take_iff_not_mem_drop {l : List Nat} (h : l.Nodup) {i o : Nat} : o ∈ l.take i ↔ o ∈ l ∧ o ∉ l.drop i := by
  have hl := List.take_append_drop i l
  constructor
  · intro ho
    rw [← hl, List.nodup_append] at h
    exact ⟨List.mem_of_mem_take ho, fun hd => h.2.2 o ho o hd rfl⟩
  · rintro ⟨ho, hd⟩
    rw [← hl] at ho
    exact (List.mem_append.mp ho).resolve_right hd

theorem tick_fin {cfg : Cfg} {w w' : Store} {c c' : Ctr} {cons cons' : Int}
    (wf : CtrWF cfg c) (hnd : c.ops.Nodup) (hfc : c.completed = false → c.frozen = false) (h : c.tick cfg w cons = .ok (w', c', cons'))
    (f : Fin w c) : Fin w' c' := by
  rcases tick_ok h with ⟨_, rfl, rfl, _⟩ | ⟨hcc, _⟩
  · exact f
  · have t := tick_live wf hnd hfc h
    have he : c'.err = false := (tick_err h).trans (f.noerr hcc)
    refine ⟨fun o ho => ?_, fun _ hx => (by rw [he] at hx; cases hx), fun _ => he, fun hx _ => t.done hx hcc⟩
    -- an operator before the new index is no longer unfinished: it was before the old index, or is the one that has just left the suffix
    rw [t.ops] at ho
    obtain ⟨hin, hnot⟩ := (mem_take_iff_not_mem_drop hnd).mp ho
    have hnot' : o ∉ c'.unfinished := by rw [unfinished_eq, t.ops]; exact hnot
    have hold : o ∉ c.unfinished → w'.stOf o = completed :=
      fun hn => completed_final t.steps.steps o (f.pre o ((mem_take_iff_not_mem_drop hnd).mpr ⟨hin, hn⟩))
    rcases t.unf with e4 | ⟨r, e4, hr⟩
    · exact hold (e4 ▸ hnot')
    · by_cases hor : o = r
      · rw [hor]; exact hr
      · exact hold (fun hn => by rw [e4] at hn; exact (List.mem_cons.mp hn).elim hor hnot')

theorem kill_fin {cfg : Cfg} {w w' : Store} {c c' : Ctr} {cons cons' : Int}
    (wf : CtrWF cfg c) (hmore : rem cfg c ≠ []) (h : c.kill w cons = .ok (w', c', cons')) (f : Fin w c) : Fin w' c' := by
  obtain ⟨hw, rfl, _⟩ := kill_ok h
  exact ⟨fun o ho => completed_final (kill_steps h) o (f.pre o ho),
    fun _ _ => ⟨((rem_ne_nil_iff wf).mp hmore : c.unfinished ≠ []), (transAll_stOf hw).1⟩,
    fun hx => (by cases hx), fun _ he => (by cases he)⟩

/-- dead or alive; `own` takes the suffixes of the live containers only (`own_eq_allUnf`) -/
def allUnf (l : List Ctr) : List Nat := l.flatMap Ctr.unfinished

theorem allUnf_cons (c : Ctr) (l : List Ctr) : allUnf (c :: l) = c.unfinished ++ allUnf l := by simp [allUnf]

theorem allUnf_append (a b : List Ctr) : allUnf (a ++ b) = allUnf a ++ allUnf b := by simp [allUnf]

theorem mem_allUnf {l : List Ctr} {c : Ctr} {o : Nat} (hc : c ∈ l) (ho : o ∈ c.unfinished) : o ∈ allUnf l :=
  List.mem_flatMap.mpr ⟨c, hc, ho⟩

theorem allUnf_eq_of_forall₂ {l l' : List Ctr} (h : Forall₂ (fun c c' => c'.unfinished = c.unfinished) l l') : allUnf l' = allUnf l := by
  unfold allUnf
  rw [List.flatMap_def, List.flatMap_def, h.map_eq (fun _ _ e => e)]

/-- The unfinished suffixes are pairwise disjoint, so if `F` of a container does not depend on operators outside its suffix, no later step disturbs
an earlier container, and no earlier step the record of a later one. -/
theorem Pass.fin {R : Store → Ctr → Store → Ctr → Prop} {F : Store → Ctr → Prop}
    (frame : ∀ {w w' : Store} {c : Ctr}, F w c → Steps w w' → (∀ o ∈ c.unfinished, w'.stOf o = w.stOf o) → F w' c)
    {w w' : Store} {l l' : List Ctr} (h : Pass R w l w' l')
    (step : ∀ {w w1 : Store} {c c1 : Ctr}, c ∈ l → R w c w1 c1 → Fin w c →
      F w1 c1 ∧ c1.unfinished.Sublist c.unfinished ∧ StepsP (fun r _ => r ∈ c.unfinished) w w1)
    (hnd : (allUnf l).Nodup) (hfin : ∀ c ∈ l, Fin w c) :
    (∀ c' ∈ l', F w' c') ∧ (allUnf l').Sublist (allUnf l) ∧ StepsP (fun r _ => r ∈ allUnf l) w w' := by
  induction h with
  | nil => exact ⟨fun _ hc => (nomatch hc), .refl _, .refl _⟩
  | @cons w w1 w2 c c1 cs cs2 hr _ ih =>
    rw [allUnf_cons, List.nodup_append] at hnd
    obtain ⟨f1, hsuf, st⟩ := step List.mem_cons_self hr (hfin c List.mem_cons_self)
    have fcs : ∀ d ∈ cs, Fin w1 d := fun d hd => fin_frame (hfin d (List.mem_cons_of_mem _ hd)) st.steps
      (fun o ho => st.frame o (fun _ hx => hnd.2.2 o hx o (mem_allUnf hd ho) rfl))
    obtain ⟨i1, i2, i3⟩ := ih (fun hc => step (List.mem_cons_of_mem _ hc)) hnd.2.1 fcs
    refine ⟨fun d hd => ?_, ?_, ?_⟩
    · rcases List.mem_cons.mp hd with rfl | hd
      · exact frame f1 i3.steps (fun o ho => i3.frame o (fun _ hx => hnd.2.2 o (hsuf.subset ho) o hx rfl))
      · exact i1 d hd
    · rw [allUnf_cons, allUnf_cons]
      exact hsuf.append i2
    · rw [allUnf_cons]
      exact (st.mono (fun r _ hx => List.mem_append_left _ hx)).trans (i3.mono (fun r _ hx => List.mem_append_right _ hx))

structure StaticOK (cfg : Cfg) (c : Ctr) : Prop where
  inv : CtrInv cfg c
  endedFits : c.completed = true → c.mem ≤ c.ram
  more : c.completed = false → rem cfg c ≠ []

theorem StaticOK.killed {cfg : Cfg} {c : Ctr} (h : StaticOK cfg c) : StaticOK cfg (killedCtr c) :=
  ⟨killedCtr_inv h.inv, fun _ => Nat.zero_le _, fun hc => by cases hc⟩

theorem tickAll_static {cfg : Cfg} {l l' : List Ctr} {w w' : Store} {cons cons' : Int} (h : tickAll cfg w l cons = .ok (w', l', cons'))
    (hrd : ReadyAll cfg w l) (hinv : ∀ c ∈ l, CtrInv cfg c ∧ (c.completed = false → c.frozen = false)) (hok : ∀ c ∈ l, CtrOK c)
    (hnd : (own l).Nodup) : ∀ c ∈ l', StaticOK cfg c := by
  obtain ⟨_, _, _, h', hmore⟩ := tickAll_succeeds cons (fun c hc => ⟨hrd c hc, hinv c hc⟩) hnd
  cases h.symm.trans h'
  obtain ⟨_, hci⟩ := tickAll_owned (R := fun _ _ => True) h hinv (fun _ _ _ _ _ _ _ _ => id)
  obtain ⟨_, htk⟩ := tickAll_mem hok h
  exact fun c hc => ⟨hci c hc, fun hcc => by have := (htk c hc).1 hcc; omega, fun hcn => (hmore c hc hcn).more hcn⟩

theorem tickAll_fin {cfg : Cfg} {l l' : List Ctr} {w w' : Store} {cons cons' : Int} (h : tickAll cfg w l cons = .ok (w', l', cons'))
    (hinv : ∀ c ∈ l, CtrInv cfg c ∧ (c.completed = false → c.frozen = false)) (hnd : (allUnf l).Nodup) (hfin : ∀ c ∈ l, Fin w c) :
    (∀ c' ∈ l', Fin w' c') ∧ (allUnf l').Sublist (allUnf l) ∧ StepsP (fun r _ => r ∈ allUnf l) w w' := by
  refine (tickAll_pass h).fin (F := Fin) fin_frame (fun hc hr f => ?_) hnd hfin
  obtain ⟨_, _, ht⟩ := hr
  obtain ⟨ci, cf⟩ := hinv _ hc
  have t := tick_live ci.wf ci.nd cf ht
  refine ⟨tick_fin ci.wf ci.nd cf ht f, ?_, t.steps.mono (fun _ _ hx => hx.1)⟩
  rcases t.unf with e | ⟨r, e, _⟩
  · rw [e]; exact .refl _
  · rw [e]; exact List.sublist_cons_self _ _

theorem killIndividual_fin (cfg : Cfg) {l l' : List Ctr} {w w' : Store} {cons cons' : Int}
    (h : killIndividual w l cons = .ok (w', l', cons')) (hst : ∀ c ∈ l, StaticOK cfg c) (hnd : (allUnf l).Nodup) (hfin : ∀ c ∈ l, Fin w c) :
    (∀ c' ∈ l', Fin w' c') ∧ allUnf l' = allUnf l ∧ StepsP (fun r _ => r ∈ allUnf l) w w' := by
  have hp := killIndividual_pass h
  have hunf : allUnf l' = allUnf l := allUnf_eq_of_forall₂ (hp.forall₂.imp (fun c c' hc => by
    obtain ⟨_, _, ⟨_, _, _, hk⟩ | ⟨_, _, rfl⟩⟩ := hc
    · rw [(kill_ok hk).2.1]; rfl
    · rfl))
  obtain ⟨a1, _, a3⟩ := hp.fin (F := Fin) fin_frame (fun {_ _ c _} hc hr f => by
    rcases hr with ⟨hgt, _, _, hk⟩ | ⟨_, rfl, rfl⟩
    · have hlive : c.completed = false :=
        Bool.eq_false_iff.mpr fun hx => Nat.lt_irrefl _ (Nat.lt_of_lt_of_le hgt ((hst c hc).endedFits hx))
      obtain ⟨_, _, _, k4, k5⟩ := kill_live hk
      exact ⟨kill_fin (hst c hc).inv.wf ((hst c hc).more hlive) hk f, by rw [k4]; exact .refl _, k5.mono (fun _ _ hx => hx.1)⟩
    · exact ⟨f, .refl _, .refl _⟩) hnd hfin
  exact ⟨a1, hunf, a3⟩

theorem killIndividual_static {cfg : Cfg} {l l' : List Ctr} {w w' : Store} {cons cons' : Int}
    (h : killIndividual w l cons = .ok (w', l', cons')) (hst : ∀ c ∈ l, StaticOK cfg c) : ∀ c ∈ l', StaticOK cfg c := by
  intro c' hc'
  obtain ⟨c, hc, _, _, ⟨_, _, _, hk⟩ | ⟨_, _, rfl⟩⟩ := (killIndividual_pass h).forall₂.mem_right hc'
  · rw [(kill_ok hk).2.1]; exact (hst c hc).killed
  · exact hst c' hc

theorem allUnf_disjoint {l : List Ctr} {x v : Ctr} (hnd : (allUnf l).Nodup) (hx : x ∈ l) (hv : v ∈ l) (hne : x ≠ v) :
    ∀ o ∈ x.unfinished, o ∉ v.unfinished := by
  induction l with
  | nil => cases hx
  | cons y ys ih =>
    intro o hox hov
    rw [allUnf_cons] at hnd
    rcases List.mem_cons.mp hx with rfl | hx' <;> rcases List.mem_cons.mp hv with rfl | hv'
    · exact hne rfl
    · exact (List.nodup_append.mp hnd).2.2 o hox o (mem_allUnf hv' hov) rfl
    · exact (List.nodup_append.mp hnd).2.2 o hov o (mem_allUnf hx' hox) rfl
    · exact ih (List.nodup_append.mp hnd).2.1 hx' hv' o hox hov

theorem allUnf_replaceCtr {act : List Ctr} {v v1 : Ctr} (hcn : (cids act).Nodup) (hv : v ∈ act) (hc : v1.cid = v.cid)
    (hu : v1.unfinished = v.unfinished) : allUnf (replaceCtr act v1) = allUnf act := by
  unfold allUnf replaceCtr
  rw [List.flatMap_def, List.flatMap_def, List.map_map]
  congr 1
  refine List.map_congr_left (fun x hx => ?_)
  simp only [Function.comp]
  split
  · rename_i hxv
    rw [hu, eq_of_nodup_map hcn hx hv ((by simpa using hxv : x.cid = v1.cid).trans hc)]
  · rfl

theorem killVictims_fin (cfg : Cfg) {capR : Nat} {vs act act' : List Ctr} {w w' : Store} {cons cons' : Int}
    (h : killVictims w capR act cons vs = .ok (w', act', cons'))
    (hcn : (cids act).Nodup) (hvnd : (cids vs).Nodup) (hsub : ∀ v ∈ vs, v ∈ act ∧ v.completed = false)
    (hst : ∀ c ∈ act, StaticOK cfg c) (hnd : (allUnf act).Nodup) (hfin : ∀ c ∈ act, Fin w c) :
    (∀ c ∈ act', Fin w' c) ∧ allUnf act' = allUnf act ∧ StepsP (fun r _ => r ∈ allUnf act) w w' := by
  induction h using killVictims_induct with
  | stop => exact ⟨hfin, rfl, .refl _⟩
  | @kill w act _ v vs w1 v1 _ _ _ _ _ _ hk _ ih =>
    obtain ⟨hv, hvn⟩ := hsub v List.mem_cons_self
    rw [cids_cons, List.nodup_cons] at hvnd
    obtain ⟨_, k2, _, k4, k5⟩ := kill_live hk
    have hau := allUnf_replaceCtr hcn hv k2 k4
    obtain ⟨i1, i2, i3⟩ := ih (cids_replaceCtr act v1 ▸ hcn) hvnd.2
      (fun u hu => by
        obtain ⟨hu1, hu2⟩ := hsub u (List.mem_cons_of_mem _ hu)
        exact ⟨mem_replaceCtr_of_ne hu1 (fun e => hvnd.1 (by rw [← k2, ← e]; exact List.mem_map_of_mem hu)), hu2⟩)
      (fun d hd => by
        rcases mem_replaceCtr hd with rfl | ⟨hd, _⟩
        · rw [(kill_ok hk).2.1]; exact (hst v hv).killed
        · exact hst d hd)
      (hau ▸ hnd)
      (fun d hd => by
        rcases mem_replaceCtr hd with rfl | ⟨hd, hne⟩
        · exact kill_fin (hst v hv).inv.wf ((hst v hv).more hvn) hk (hfin v hv)
        · exact fin_frame (hfin d hd) k5.steps (fun o ho => k5.frame o (fun _ hx =>
            allUnf_disjoint hnd hd hv (fun e => hne (by rw [e, k2])) o ho hx.1)))
    exact ⟨i1, i2.trans hau, (k5.mono (fun r _ hx => mem_allUnf hv hx.1)).trans (i3.mono (fun r _ hx => hau ▸ hx))⟩

theorem oomKiller_fin (cfg : Cfg) {w w' : Store} {p p' : Pool} (hcn : (cids p.active).Nodup)
    (hst : ∀ c ∈ p.active, StaticOK cfg c) (hnd : (allUnf p.active).Nodup) (hfin : ∀ c ∈ p.active, Fin w c) (h : oomKiller w p = .ok (w', p')) :
    (∀ c ∈ p'.active, Fin w' c) ∧ allUnf p'.active = allUnf p.active ∧ StepsP (fun r _ => r ∈ allUnf p.active) w w' := by
  obtain ⟨w1, act1, cons1, hk, hrest⟩ := oomKiller_ok h
  obtain ⟨a1, a2, a3⟩ := killIndividual_fin cfg hk hst hnd hfin
  rcases hrest with ⟨_, rfl, rfl⟩ | ⟨_, act2, cons2, hv, rfl⟩
  · exact ⟨a1, a2, a3⟩
  · have hcn1 : (cids act1).Nodup := by rw [cids_of_ident (killIndividual_ident hk)]; exact hcn
    obtain ⟨hsub, hvnd⟩ := victims_ok hcn1
    obtain ⟨b1, b2, b3⟩ := killVictims_fin cfg hv hcn1 hvnd hsub (killIndividual_static hk hst) (by rw [a2]; exact hnd) a1
    exact ⟨b1, by rw [b2, a2], a3.trans (b3.mono (fun r _ hx => by rw [a2] at hx; exact hx))⟩

theorem sublist_allUnf : ∀ {l : List Ctr} {c : Ctr}, c ∈ l → c.unfinished.Sublist (allUnf l) := by
  intro l c hc
  obtain ⟨l1, l2, rfl⟩ := List.append_of_mem hc
  rw [allUnf_append, allUnf_cons]
  exact (List.sublist_append_left _ _).trans (List.sublist_append_right _ _)

theorem allUnf_sublist {l₁ l₂ : List Ctr} (h : l₁.Sublist l₂) : (allUnf l₁).Sublist (allUnf l₂) := by
  induction h with
  | slnil => exact List.Sublist.refl _
  | cons a _ ih => rw [allUnf_cons]; exact ih.trans (List.sublist_append_right _ _)
  | cons_cons a _ ih => rw [allUnf_cons, allUnf_cons]; exact List.Sublist.append (List.Sublist.refl _) ih

theorem own_eq_allUnf {l : List Ctr} (h : ∀ c ∈ l, c.completed = false) : own l = allUnf l := by
  unfold own allUnf
  rw [List.filter_eq_self.mpr (fun c hc => by simp [h c hc])]

theorem mkCtr_fin (w : Store) (k : Nat) (a : Asg) : Fin w (mkCtr w k a) :=
  ⟨fun o ho => by simp [mkCtr] at ho, fun hc => by simp [mkCtr] at hc, fun _ => rfl, fun hc => by simp [mkCtr] at hc⟩

theorem startAll_fin {cfg : Cfg} {w : Store} {as : List Asg} {p p' : Pool} {n n' : Nat}
    (h : startAll cfg w p n as = .ok (p', n')) (hp : ∀ c ∈ p.active ++ p.suspending, Fin w c) : ∀ c ∈ p'.active ++ p'.suspending, Fin w c := by
  obtain ⟨hsus, _, new, hact, hnew⟩ := startAll_lists h
  intro c hc
  rw [hact, hsus] at hc
  rcases List.mem_append.mp hc with hc | hc
  · rcases List.mem_append.mp hc with hc | hc
    · exact hp c (List.mem_append_left _ hc)
    · obtain ⟨a, _, k, rfl⟩ := hnew.mem_right hc
      exact mkCtr_fin w k a
  · exact hp c (List.mem_append_right _ hc)

end Eudoxia
