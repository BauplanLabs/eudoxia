import EudoxiaModel.Proofs.NaiveSafe
import EudoxiaModel.Proofs.WorldLive
/-! The naive scheduler with single-operator containers (also the starter scheduler written by `eudoxia init`) in closed loop with the executor
    never raises.  `Naive.Admissible` (what the executor's tick asks of a decision) also serves the multi-operator and the overbook loop. -/
namespace Eudoxia
open OpState Extracted

def World.SegsOK (w : World) : Prop := ∀ pid, ∀ r ∈ (w.pipes.getD pid default).order, w.store.segsOf r ≠ []

theorem World.SegsOK.steps {w w' : World} (hs : w.SegsOK) (hp : w'.pipes = w.pipes) (hst : Steps w.store w'.store) : w'.SegsOK := by
  intro pid r hr
  rw [hp] at hr
  rw [hst.segsOf]
  exact hs pid r hr

theorem parentsOK_singleton {s : Store} {r : Nat} (h : ∀ q ∈ s.parentsOf r, s.stOf q = completed) : ParentsOK s [r] := by
  intro pre o post e q hq
  cases pre with
  | nil => cases e; exact .inl (h q hq)
  | cons x xs => cases xs <;> cases e

theorem opCountOk_of {cfg : Cfg} {a : Asg} (hne : a.ops ≠ []) (h : cfg.multiOp = true ∨ a.ops.length ≤ 1) : opCountOk cfg a = true := by
  have hpos := List.length_pos_iff.mpr hne
  unfold opCountOk
  rcases h with hm | h1
  · rw [hm]; simpa using Nat.succ_le_of_lt hpos
  · split <;> simp <;> omega

theorem opCountOk_singleton {cfg : Cfg} {a : Asg} {r : Nat} (h : a.ops = [r]) : opCountOk cfg a = true :=
  opCountOk_of (h ▸ List.cons_ne_nil r []) (.inr (by rw [h]; exact Nat.le_refl 1))

namespace Naive

theorem indexed_mem {l : List Pool} {ip : Nat × Pool} (h : ip ∈ indexed l) : l[ip.1]? = some ip.2 := by
  obtain ⟨i, hlt, he⟩ := List.mem_iff_getElem.mp h
  simp only [indexed, List.length_zip, List.length_range, Nat.min_self] at hlt
  simp [← he, indexed, hlt]

theorem indexed_fst (l : List Pool) : (indexed l).map (·.1) = List.range l.length := by
  unfold indexed
  rw [List.map_fst_zip]
  simp

/-- `wi` is the world at the moment the scan reached `pid`, `w1` the world at the end of the round -/
structure Served (multi : Bool) (I : World → Prop) (w1 : World) (p : Pool) (a : Asg) (wi : World) (pid : Nat) : Prop where
  cpu : (a.cpu : Int) = p.availC
  ram : (a.ram : Int) = p.availR
  inv : I wi
  pipes : wi.pipes = w1.pipes
  steps : Steps wi.store w1.store
  eligible : ¬ C17.Skipped wi multi pid
  ops : a.ops = opsFor wi multi pid

theorem pools_ok {multi : Bool} {I : World → Prop}
    (hI : ∀ {w w1 : World} {pid cpu ram pool : Nat}, I w → ¬ C17.Skipped w multi pid →
      w.mkAssignment ⟨opsFor w multi pid, cpu, ram, w.prioOf pid, pool⟩ = .ok w1 → I w1)
    {w w' : World} {ips : List (Nat × Pool)} {queue req queue' req' : List Nat} {acc out : List Asg}
    (h : pools multi w ips queue req acc = .ok (w', queue', req', out)) (hw : I w) :
    I w' ∧ ∃ new, out = acc ++ new ∧ Built w new w' ∧ (new.map (·.pool)).Sublist (ips.map (·.1)) ∧
      ∀ a ∈ new, ∃ p, (a.pool, p) ∈ ips ∧ ∃ wi pid, Served multi I w' p a wi pid := by
  induction h using pools_induct with
  | nil => exact ⟨hw, [], (List.append_nil _).symm, .nil _, List.nil_sublist _, fun _ ha => (nomatch ha)⟩
  | full _ _ _ ih =>
    obtain ⟨hw', new, h1, h2, h3, h4⟩ := ih hw
    exact ⟨hw', new, h1, h2, h3.trans (List.sublist_cons_self _ _), fun a ha => (h4 a ha).imp fun _ => .imp_left (List.mem_cons_of_mem _)⟩
  | scan w i p _ _ _ hc hr hp _ ih =>
    obtain ⟨_, _, ⟨rfl, rfl, _⟩ | ⟨pid, a, rfl, _, hns, hmk, _⟩⟩ := pop_ok hp
    · obtain ⟨hw', new, h1, h2, h3, h4⟩ := ih hw
      exact ⟨hw', new, by simpa using h1, h2, h3.trans (List.sublist_cons_self _ _), fun a ha => (h4 a ha).imp fun _ => .imp_left (List.mem_cons_of_mem _)⟩
    · obtain ⟨rfl, hm⟩ := mkA_ok hmk
      obtain ⟨hw', new, h1, h2, h3, h4⟩ := ih (hI hw hns hm)
      have hb : Built w (_ :: new) _ := .cons hm h2
      refine ⟨hw', _ :: new, by simpa using h1, hb, h3.cons_cons i, fun a ha => ?_⟩
      rcases List.mem_cons.mp ha with rfl | ha
      · exact ⟨p, List.mem_cons_self, w, pid, Int.toNat_of_nonneg (Int.le_of_lt hc), Int.toNat_of_nonneg (Int.le_of_lt hr), hw, hb.pipes.symm, hb.steps, hns, rfl⟩
      · exact (h4 a ha).imp fun _ => .imp_left (List.mem_cons_of_mem _)

structure RoundBuilt (multi : Bool) (I : World → Prop) (w w1 : World) (dec : Decision) : Prop where
  inv : I w1
  sus : dec.sus = []
  built : Built w dec.asgs w1
  pools : (dec.asgs.map (·.pool)).Sublist (List.range w.pools.length)
  served : ∀ a ∈ dec.asgs, ∃ p, w.pools[a.pool]? = some p ∧ ∃ wi pid, Served multi I w1 p a wi pid

theorem round_built {multi : Bool} {I : World → Prop}
    (hI : ∀ {w w1 : World} {pid cpu ram pool : Nat}, I w → ¬ C17.Skipped w multi pid →
      w.mkAssignment ⟨opsFor w multi pid, cpu, ram, w.prioOf pid, pool⟩ = .ok w1 → I w1)
    {w w1 : World} {st st1 : St} {results : List Res} {newP : List Nat} {dec : Decision}
    (h : round multi w st results newP = .ok (w1, st1, dec)) (hw : I w) : RoundBuilt multi I w w1 dec := by
  rcases round_ok h with ⟨_, rfl, _, rfl⟩ | ⟨_, _, _, _, hp, _, rfl⟩
  · exact ⟨hw, rfl, .nil _, List.nil_sublist _, fun _ ha => (nomatch ha)⟩
  · obtain ⟨hw1, new, rfl, hb, hsub, hall⟩ := pools_ok hI hp hw
    exact ⟨hw1, rfl, hb, indexed_fst _ ▸ hsub, fun a ha => (hall a ha).imp fun _ => .imp_left indexed_mem⟩

theorem filter_le_one_of_nodup_map : ∀ (l : List Asg) (k : Nat), (l.map (·.pool)).Nodup →
    l.filter (·.pool == k) = [] ∨ ∃ a ∈ l, l.filter (·.pool == k) = [a]
  | [], _, _ => .inl rfl
  | x :: xs, k, hnd => by
    obtain ⟨hx, hnd⟩ := List.nodup_cons.mp hnd
    by_cases hxk : x.pool = k
    · have hrest : xs.filter (·.pool == k) = [] :=
        List.filter_eq_nil_iff.mpr fun y hy e => hx (List.mem_map.mpr ⟨y, hy, (beq_iff_eq.mp e).trans hxk.symm⟩)
      exact .inr ⟨x, List.mem_cons_self, by simp [hxk, hrest]⟩
    · rcases filter_le_one_of_nodup_map xs k hnd with h | ⟨a, ha, h⟩
      · exact .inl (by simp [hxk, h])
      · exact .inr ⟨a, List.mem_cons_of_mem _ ha, by simp [hxk, h]⟩

/-- the hypotheses of `execTick_succeeds_of_gates`, for a decision without suspension requests -/
structure Admissible (w w1 : World) (asgs : List Asg) : Prop where
  built : Built w asgs w1
  seg : ∀ a ∈ asgs, ∀ r ∈ a.ops, w.store.segsOf r ≠ []
  par : ∀ a ∈ asgs, ParentsOK w1.store a.ops
  pool : ∀ a ∈ asgs, a.pool < w.pools.length
  verified : ∀ k p, w.pools[k]? = some p →
    (asgs.filter (·.pool == k)).isEmpty = true ∨ verifyAssignments w.cfg p (asgs.filter (·.pool == k)) = .ok ()
  count : ∀ a ∈ asgs, opCountOk w.cfg a = true

theorem execTick_gates {w w1 : World} {asgs : List Asg} (hr : WorldReady w) (A : Admissible w w1 asgs) :
    ∃ w2 res, w1.execTick [] asgs = .ok (w2, res) ∧ WorldReady w2 ∧ w2.pipes = w.pipes ∧ w2.cfg = w.cfg ∧
      Steps w.store w2.store ∧ Steps w1.store w2.store := by
  obtain ⟨e1, e2, _, est⟩ := built_frame A.built
  obtain ⟨w2, res, hex, r2, p2, c2, st2⟩ := execTick_succeeds_of_gates w w1 asgs hr A.built
    A.seg A.par (by rw [e1]; exact A.pool) (by rw [e1, e2]; exact A.verified) (by rw [e2]; exact A.count)
  exact ⟨w2, res, hex, r2, p2.trans A.built.pipes, c2.trans e2, est.trans st2, st2⟩

theorem verify_one_per_pool {cfg : Cfg} {pools : List Pool} {asgs : List Asg} (hsub : (asgs.map (·.pool)).Sublist (List.range pools.length))
    (hfit : ∀ a ∈ asgs, ∃ p, pools[a.pool]? = some p ∧ (a.cpu : Int) = p.availC ∧ (a.ram : Int) = p.availR)
    {k : Nat} {p : Pool} (hk : pools[k]? = some p) :
    (asgs.filter (·.pool == k)).isEmpty = true ∨ verifyAssignments cfg p (asgs.filter (·.pool == k)) = .ok () := by
  rcases filter_le_one_of_nodup_map asgs k (hsub.nodup List.nodup_range) with h | ⟨a, ha, h⟩
  · left; rw [h]; rfl
  · right
    obtain ⟨p', hp', c3, c4⟩ := hfit a ha
    have hmem : a ∈ asgs.filter (·.pool == k) := h ▸ List.mem_singleton_self a
    have hak : a.pool = k := beq_iff_eq.mp (List.mem_filter.mp hmem).2
    rw [hak, hk] at hp'
    cases hp'
    simp only [h, verifyAssignments, cpuReq, ramReq, List.map_cons, List.map_nil, List.sum_cons, List.sum_nil, Nat.add_zero]
    rw [if_neg (by omega), if_neg (by simp; omega)]

theorem opCountOk_of_ops {cfg : Cfg} {a : Asg} {w : World} {pid : Nat} (hops : a.ops = opsFor w cfg.multiOp pid) (hne : a.ops ≠ []) :
    opCountOk cfg a = true := by
  cases hm : cfg.multiOp
  · exact opCountOk_of hne (.inr (by rw [hops, hm]; exact opsFor_single_length w pid))
  · exact opCountOk_of hne (.inl hm)

theorem round_of_inv {multi : Bool} {I : World → Prop}
    (hI : ∀ {w w1 : World} {pid cpu ram pool : Nat}, I w → ¬ C17.Skipped w multi pid →
      w.mkAssignment ⟨opsFor w multi pid, cpu, ram, w.prioOf pid, pool⟩ = .ok w1 → I w1)
    (hops : ∀ {wi : World} {pid : Nat}, I wi → ¬ C17.Skipped wi multi pid →
      ParentsOK wi.store (opsFor wi multi pid) ∧ ∀ r ∈ opsFor wi multi pid, wi.store.segsOf r ≠ [])
    {w : World} (st : St) (results : List Res) (newP : List Nat) (wf : w.WFP) (hw : I w) (hm : w.cfg.multiOp = multi) :
    ∃ w1 st1 asgs, round multi w st results newP = .ok (w1, st1, { asgs := asgs }) ∧ I w1 ∧ Admissible w w1 asgs := by
  obtain ⟨w1, st1, ⟨sus, asgs⟩, hrd, _⟩ := round_never_raises multi w st results newP wf
  have R := round_built hI hrd hw
  obtain rfl : sus = [] := R.sus
  have hgood : ∀ a ∈ asgs, opCountOk w.cfg a = true ∧ ParentsOK w1.store a.ops ∧ ∀ r ∈ a.ops, w.store.segsOf r ≠ [] := by
    intro a ha
    obtain ⟨_, _, wi, pid, S⟩ := R.served a ha
    obtain ⟨hp, hs⟩ := hops S.inv S.eligible
    have e := S.ops
    exact ⟨opCountOk_of_ops (hm ▸ e) (e ▸ C17.not_skipped_ops S.eligible), e ▸ parentsOK_frame hp S.steps.ops (completed_final S.steps),
      fun r hr => R.built.steps.segsOf r ▸ S.steps.segsOf r ▸ hs r (e ▸ hr)⟩
  exact ⟨w1, st1, asgs, hrd, R.inv,
    { built := R.built
      seg := fun a ha => (hgood a ha).2.2
      par := fun a ha => (hgood a ha).2.1
      pool := fun a ha => List.mem_range.mp (R.pools.subset (List.mem_map_of_mem ha))
      verified := fun k p hk => verify_one_per_pool R.pools (fun a ha => let ⟨p, hp, _, _, S⟩ := R.served a ha; ⟨p, hp, S.cpu, S.ram⟩) hk
      count := fun a ha => (hgood a ha).1 }⟩

theorem naive_tick_never_raises (w : World) (st : St) (results : List Res) (newP : List Nat)
    (hr : WorldReady w) (wf : w.WFP) (hs : w.SegsOK) (hm : w.cfg.multiOp = false) :
    ∃ w1 st1 dec w2 res, round false w st results newP = .ok (w1, st1, dec) ∧ w1.execTick dec.sus dec.asgs = .ok (w2, res) ∧
      WorldReady w2 ∧ w2.WFP ∧ w2.SegsOK ∧ w2.cfg.multiOp = false := by
  obtain ⟨w1, st1, asgs, hrd, _, A⟩ := round_of_inv (multi := false) (I := fun w => w.WFP ∧ w.SegsOK)
    (fun h _ hm => ⟨h.1.steps (mkAssignment_pipes hm) (mkAssignment_steps_ok hm), h.2.steps (mkAssignment_pipes hm) (mkAssignment_steps_ok hm)⟩)
    (fun {wi pid} h hns => by
      have hops : opsFor wi false pid = (wi.getOps pid assignable true).take 1 := rfl
      cases hg : wi.getOps pid assignable true with
      | nil => exact absurd (.inr (by rw [hops, hg]; rfl)) hns
      | cons r rs =>
        obtain ⟨hr1, _, hr3⟩ := mem_getOps.mp (hg ▸ List.mem_cons_self (a := r))
        rw [hops, hg]
        exact ⟨parentsOK_singleton (hr3 rfl), fun x hx => List.mem_singleton.mp hx ▸ h.2 pid r hr1⟩)
    st results newP wf ⟨wf, hs⟩ hm
  obtain ⟨w2, res, hex, r2, p2, c2, st2, _⟩ := execTick_gates hr A
  exact ⟨w1, st1, _, w2, res, hrd, hex, r2, wf.steps p2 st2, hs.steps p2 st2, by rw [c2]; exact hm⟩

/-- the main loop of `run_simulator` (`simulator.py`) without its statistics: per tick a scheduling round on the previous tick's results and the
new arrivals, then the executor tick on its decision.  `Naive.loopM`, `Overbook.loop`, `Prio.loop` and `PP.loop` are the same loop around the other rounds. -/
def loop : World → St → List Res → List (List Nat) → Except Err (World × St × List Res)
  | w, st, res, [] => .ok (w, st, res)
  | w, st, res, newP :: rest =>
    match round false w st res newP with
    | .error e => .error e.1
    | .ok (w1, st1, dec) =>
      match w1.execTick dec.sus dec.asgs with
      | .error e => .error e.1
      | .ok (w2, res2) => loop w2 st1 res2 rest

/-- **the naive scheduler (`multi_operator_containers = false`) and the starter scheduler of `eudoxia init` drive any run to its last tick without raising**,
for every sequence of arrival batches, every queue state and whatever the results are -/
theorem run_never_raises : ∀ (arrivals : List (List Nat)) (w : World) (st : St) (res : List Res),
    WorldReady w → w.WFP → w.SegsOK → w.cfg.multiOp = false → ∃ out, loop w st res arrivals = .ok out := by
  intro arrivals
  induction arrivals with
  | nil => intro w st res _ _ _ _; exact ⟨_, rfl⟩
  | cons newP rest ih =>
    intro w st res hr wf hs hm
    obtain ⟨w1, st1, dec, w2, res2, h1, h2, r2, wf2, hs2, hm2⟩ := naive_tick_never_raises w st res newP hr wf hs hm
    obtain ⟨out, ho⟩ := ih w2 st1 res2 r2 wf2 hs2 hm2
    exact ⟨out, by unfold loop; rw [h1]; simp only; rw [h2]; exact ho⟩

end Naive
end Eudoxia
