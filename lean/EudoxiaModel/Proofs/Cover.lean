import EudoxiaModel.Proofs.Progress
/-! No container is lost: every container a pool holds when a tick begins (running or being written out), and every container started in the tick, is found
    again when the tick ends — still in one of the pool's lists or among the results — with its operator list, and the former under its number. -/
namespace Eudoxia
open OpState Extracted

/-- `W`: over the pools of a world; the pool-level lemmas use it with the one pool `[p']` -/
def CoveredW (cid : Nat) (ops : List Nat) (ps : List Pool) (res : List Res) : Prop :=
  (∃ q ∈ ps, ∃ c ∈ q.active ++ q.suspending ++ q.suspended, c.cid = cid ∧ c.ops = ops) ∨ (∃ r ∈ res, r.cid = cid ∧ r.ops = ops)

theorem doSuspends_cover {cfg : Cfg} {l : List Nat} {w w' : Store} {p p' : Pool} (h : doSuspends cfg w p l = .ok (w', p'))
    (hcn : (cids p.active).Nodup) : ∀ c0 ∈ p.active ++ p.suspending, ∃ c ∈ p'.active ++ p'.suspending, c.cid = c0.cid ∧ c.ops = c0.ops := by
  obtain ⟨_, hact, moved, hsusp, hmoved⟩ := doSuspends_lists h
  intro c0 hc0
  rcases List.mem_append.mp hc0 with h0 | h0
  · by_cases hk : c0.cid ∈ l
    · obtain ⟨c1, hc1, c, hc, hck, _, _, hs⟩ := hmoved.mem_left hk
      obtain rfl : c = c0 := eq_of_nodup_map hcn hc h0 hck
      exact ⟨c1, by rw [hsusp]; exact List.mem_append_right _ (List.mem_append_right _ hc1), (suspend_ident hs).cid, (suspend_ident hs).ops⟩
    · exact ⟨c0, by rw [hact]; exact List.mem_append_left _ (List.mem_filter.mpr ⟨h0, by simpa using hk⟩), rfl, rfl⟩
  · exact ⟨c0, by rw [hsusp]; exact List.mem_append_right _ (List.mem_append_left _ h0), rfl, rfl⟩

theorem poolRun_cover {cfg : Cfg} {w w' : Store} {p p' : Pool} {res : List Res} (hcn : (cids p.active).Nodup)
    (h : poolRun cfg w p = .ok (w', p', res)) :
    (∀ c0 ∈ p.active ++ p.suspending, CoveredW c0.cid c0.ops [p'] res) ∧ (∀ c ∈ p.suspended, c ∈ p'.suspended) ∧
    (∀ c0 ∈ p.active, (∃ c ∈ p'.active, c.cid = c0.cid ∧ c.ops = c0.ops) ∨ (∃ r ∈ res, r.cid = c0.cid ∧ r.ops = c0.ops)) := by
  obtain ⟨l3, act5, hr⟩ := poolRun_ran h
  have hact : ∀ c0 ∈ p.active, (∃ c ∈ p'.active, c.cid = c0.cid ∧ c.ops = c0.ops) ∨ (∃ r ∈ res, r.cid = c0.cid ∧ r.ops = c0.ops) := by
    intro c0 h0
    obtain ⟨c5, hc5, e5⟩ := List.mem_map.mp (show c0.cid ∈ act5.map (·.cid) by rw [hr.cids]; exact List.mem_map_of_mem h0)
    obtain ⟨c, hc, hran⟩ := hr.ran c5 hc5
    have hi := hran.ident
    obtain rfl : c = c0 := eq_of_nodup_map hcn hc h0 (hi.cid.symm.trans e5)
    by_cases hcomp : c5.completed = true
    · exact .inr ⟨mkRes c5, by rw [hr.res]; exact List.mem_map_of_mem (List.mem_filter.mpr ⟨hc5, hcomp⟩), hi.cid, hi.ops⟩
    · exact .inl ⟨c5, by rw [hr.active]; exact List.mem_filter.mpr ⟨hc5, by simpa using hcomp⟩, hi.cid, hi.ops⟩
  refine ⟨fun c0 hc0 => ?_, fun c hc => by rw [hr.suspended]; exact List.mem_append_left _ hc, hact⟩
  rcases List.mem_append.mp hc0 with h0 | h0
  · rcases hact c0 h0 with ⟨c, hc, e⟩ | hres
    · exact .inl ⟨p', List.mem_cons_self, c, List.mem_append_left _ (List.mem_append_left _ hc), e⟩
    · exact .inr hres
  · obtain ⟨c, hc, e⟩ := hr.wrote.mem_left h0
    refine .inl ⟨p', List.mem_cons_self, c, ?_, by rw [e], by rw [e]⟩
    by_cases hz : (c.suspLeft == 0) = true
    · rw [hr.suspended]
      exact List.mem_append_right _ (List.mem_append_right _ (List.mem_filter.mpr ⟨hc, hz⟩))
    · rw [hr.suspending]
      exact List.mem_append_left _ (List.mem_append_right _ (List.mem_filter.mpr ⟨hc, by simpa using hz⟩))

theorem poolTick_cover {cfg : Cfg} {w w' : Store} {p p' : Pool} {n n' : Nat} {cm : Cmds} {res : List Res} (g : PoolGoodMem cfg p n)
    (h : poolTick cfg w p n cm = .ok (w', p', n', res)) :
    (∀ c0 ∈ p.active ++ p.suspending, CoveredW c0.cid c0.ops [p'] res) ∧
    (∀ a ∈ cm.asgs, (∃ c ∈ p'.active, c.ops = a.ops) ∨ (∃ r ∈ res, r.ops = a.ops)) ∧
    (∀ c ∈ p.suspended, c ∈ p'.suspended) := by
  obtain ⟨w1, p1, p2, _, hs, hg, hst, hr⟩ := poolTick_ok h
  obtain ⟨p0, hd, e1, e2, e3⟩ := susPhase_lists hs
  have g2 := goodMem_phases.start (goodMem_phases.sus g hs) hg hst
  obtain ⟨t3, t4, new, tact, tnew⟩ := startAll_lists hst
  obtain ⟨r1, r2, r3⟩ := poolRun_cover g2.1.1.activeNodup hr
  refine ⟨fun c0 hc0 => ?_, fun a ha => ?_, fun c hc => r2 c (by rw [t4, e3, (doSuspends_lists hd).1]; exact hc)⟩
  · obtain ⟨c, hc, c1, c2⟩ := doSuspends_cover hd g.1.1.activeNodup c0 hc0
    have hc' : c ∈ p2.active ++ p2.suspending := by
      rw [tact, t3, e1, e2]
      rcases List.mem_append.mp hc with hc | hc
      · exact List.mem_append_left _ (List.mem_append_left _ hc)
      · exact List.mem_append_right _ hc
    have := r1 c hc'
    rw [c1, c2] at this
    exact this
  · obtain ⟨c, hc, k, rfl⟩ := tnew.mem_left ha
    rcases r3 _ (by rw [tact]; exact List.mem_append_right _ hc) with ⟨d, hd', _, d2⟩ | ⟨r, hrr, _, r2'⟩
    · exact .inl ⟨d, hd', d2⟩
    · exact .inr ⟨r, hrr, r2'⟩

theorem execPools_cover {cfg : Cfg} {sus : List (Nat × Nat)} {asgs : List Asg}
    {s : Store} {n : Nat} {done todo : List Pool} {res : List Res} {s' : Store} {ps : List Pool} {n' : Nat} {res' : List Res}
    (h : execPools cfg sus asgs s n done todo res = .ok (s', ps, n', res')) (hg : ∀ p ∈ todo, PoolGoodMem cfg p n) :
    (∀ p ∈ todo, ∀ c0 ∈ p.active ++ p.suspending, CoveredW c0.cid c0.ops ps res') ∧
    (∀ a ∈ asgs, done.length ≤ a.pool → a.pool < done.length + todo.length →
      (∃ q ∈ ps, ∃ c ∈ q.active, c.ops = a.ops) ∨ ∃ r ∈ res', r.ops = a.ops) ∧
    (∀ q ∈ done, q ∈ ps) ∧ (∀ r ∈ res, r ∈ res') := by
  induction h using execPools_induct with
  | nil => exact ⟨fun p hp => (nomatch hp), fun a _ h1 h2 => absurd h2 (Nat.not_lt.mpr h1), fun q hq => hq, fun r hr => hr⟩
  | step _ hpt _ ih =>
    obtain ⟨_, _, _, _, _, _, hst, _⟩ := poolTick_ok hpt
    obtain ⟨t1, t2, _⟩ := poolTick_cover (hg _ List.mem_cons_self) hpt
    obtain ⟨iA, iB, iC, iD⟩ := ih (fun q hq => goodMem_phases.mono (hg q (List.mem_cons_of_mem _ hq)) (startAll_le hst))
    have hp1 := iC _ (List.mem_append_right _ List.mem_cons_self)
    refine ⟨fun q hq c0 hc0 => ?_, fun a ha h1 h2 => ?_, fun q hq => iC q (List.mem_append_left _ hq), fun x hx => iD x (List.mem_append_left _ hx)⟩
    · rcases List.mem_cons.mp hq with rfl | hq
      · rcases t1 c0 hc0 with ⟨q', hq', c, hc, e⟩ | ⟨x, hx, e⟩
        · rw [List.mem_singleton.mp hq'] at hc
          exact .inl ⟨_, hp1, c, hc, e⟩
        · exact .inr ⟨x, iD x (List.mem_append_right _ hx), e⟩
      · exact iA q hq c0 hc0
    · rcases Nat.eq_or_lt_of_le h1 with hk | hk
      · rcases t2 a (List.mem_filter.mpr ⟨ha, by simpa using hk.symm⟩) with ⟨c, hc, e⟩ | ⟨x, hx, e⟩
        · exact .inl ⟨_, hp1, c, hc, e⟩
        · exact .inr ⟨x, iD x (List.mem_append_right _ hx), e⟩
      · apply iB a ha
        · rw [List.length_append]
          exact hk
        · rw [List.length_append, List.length_singleton, Nat.add_assoc, Nat.add_comm 1]
          exact h2

theorem execTick_cover {w w2 : World} {sus : List (Nat × Nat)} {asgs : List Asg} {res : List Res} (hg : ∀ p ∈ w.pools, PoolGoodMem w.cfg p w.nextCid)
    (hx : w.execTick sus asgs = .ok (w2, res)) :
    (∀ p ∈ w.pools, ∀ c0 ∈ p.active ++ p.suspending, CoveredW c0.cid c0.ops w2.pools res) ∧
    (∀ a ∈ asgs, (∃ q ∈ w2.pools, ∃ c ∈ q.active, c.ops = a.ops) ∨ ∃ r ∈ res, r.ops = a.ops) := by
  obtain ⟨_, hno, _, _, _, hexp, rfl⟩ := execTick_ok hx
  obtain ⟨cA, cB, _, _⟩ := execPools_cover hexp hg
  exact ⟨cA, fun a ha => cB a ha (Nat.zero_le _) (by simpa using hno a ha)⟩

end Eudoxia
