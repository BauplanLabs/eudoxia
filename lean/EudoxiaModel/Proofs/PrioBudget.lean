import EudoxiaModel.Model.Sched.Priority
import EudoxiaModel.Proofs.BestPool
import EudoxiaModel.Proofs.Queue
/-! Budget bookkeeping of the per-round pool snapshots in the priority / priority-pool rounds, the sizes `prSize` and `ppSize` can return, and when
    the executor accepts a round's suspension requests.  In the namespace of the property they serve; the property theorems are in `Props/C08.lean`. -/
namespace Eudoxia.C08
open Eudoxia Eudoxia.Prio OpState Extracted

def NonNegS (sn : List Snap) : Prop := ∀ s ∈ sn, 0 ≤ s.availC ∧ 0 ≤ s.availR

theorem getD_nonneg {sn : List Snap} (h : NonNegS sn) (p : Nat) : 0 ≤ (sn.getD p default).availC ∧ 0 ≤ (sn.getD p default).availR := by
  rw [List.getD_eq_getElem?_getD]
  cases hg : sn[p]? with
  | none => simp; decide
  | some s => simp; exact h s (List.mem_of_getElem? hg)

theorem snapSub_getD (sn : List Snap) (k p cpu ram : Nat) (hk : k < sn.length) :
    (snapSub sn k cpu ram).getD p default =
      if p = k then { sn.getD k default with availC := (sn.getD k default).availC - cpu, availR := (sn.getD k default).availR - ram }
      else sn.getD p default :=
  getD_set_of_lt hk p _ default

theorem snapSub_nonneg (sn : List Snap) (k cpu ram : Nat) (h : NonNegS sn)
    (hc : (cpu : Int) ≤ (sn.getD k default).availC) (hr : (ram : Int) ≤ (sn.getD k default).availR) : NonNegS (snapSub sn k cpu ram) := by
  intro s hs
  unfold snapSub at hs
  rcases List.mem_or_eq_of_mem_set hs with hs | rfl
  · exact h s hs
  · simp only; omega

theorem cpuReq_append (a b : List Asg) : cpuReq (a ++ b) = cpuReq a + cpuReq b := by simp [cpuReq]
theorem ramReq_append (a b : List Asg) : ramReq (a ++ b) = ramReq a + ramReq b := by simp [ramReq]

/-- pool `p`'s share of a batch, as the executor selects it (`a.pool_id == id_`) -/
def on (as : List Asg) (p : Nat) : List Asg := as.filter (·.pool == p)

theorem on_cons (a : Asg) (as : List Asg) (p : Nat) : on (a :: as) p = if a.pool = p then a :: on as p else on as p := by
  unfold on; rw [List.filter_cons]; by_cases h : a.pool = p <;> simp [h]

theorem on_append (a b : List Asg) (p : Nat) : on (a ++ b) p = on a p ++ on b p := by simp [on]

def Budget (sn sn' : List Snap) (new : List Asg) : Prop :=
  ∀ p, (sn'.getD p default).availC + cpuReq (on new p) = (sn.getD p default).availC ∧
       (sn'.getD p default).availR + ramReq (on new p) = (sn.getD p default).availR

theorem budget_refl (sn : List Snap) : Budget sn sn [] := by intro p; simp [on, cpuReq, ramReq]

theorem add_of_eq_sub {a x y c : Int} (h : x + y = a - c) : x + (c + y) = a := by omega

theorem add_add_of_eq {a b c x y : Int} (h1 : b + x = a) (h2 : c + y = b) : c + (x + y) = a := by omega

theorem budget_step {sn sn' : List Snap} {new : List Asg} {k cpu ram : Nat} (a : Asg) (hk : k < sn.length)
    (ha : a.pool = k ∧ a.cpu = cpu ∧ a.ram = ram) (h : Budget (snapSub sn k cpu ram) sn' new) : Budget sn sn' (a :: new) := by
  intro p
  obtain ⟨h1, h2⟩ := h p
  rw [snapSub_getD _ _ _ _ _ hk] at h1 h2
  rw [on_cons, ha.1]
  by_cases e : k = p
  · subst e
    simp only [↓reduceIte] at h1 h2 ⊢
    simp only [cpuReq, ramReq, List.map_cons, List.sum_cons, ha.2.1, ha.2.2] at *
    exact ⟨add_of_eq_sub h1, add_of_eq_sub h2⟩
  · have e' : ¬ p = k := fun x => e x.symm
    simp only [e, e', ↓reduceIte] at h1 h2 ⊢
    exact ⟨h1, h2⟩

/-- cheaper than `split` on a hypothesis with several nested `if`s -/
theorem of_ite_eq {α : Type} {c : Prop} [Decidable c] {a b x : α} (h : (if c then a else b) = x) : (c ∧ a = x) ∨ (¬ c ∧ b = x) := by
  by_cases hc : c
  · exact .inl ⟨hc, by rwa [if_pos hc] at h⟩
  · exact .inr ⟨hc, by rwa [if_neg hc] at h⟩

theorem newSize_cases (q : Nat) (s : Snap) (h0 : 0 < s.availC) (h1 : 0 < s.availR) :
    (((newSize q s).1 : Int) = s.availC ∧ ((newSize q s).2 : Int) = s.availR) ∨
    (((newSize q s).1 : Int) < s.availC ∧ ((newSize q s).2 : Int) < s.availR) := by
  simp only [newSize]
  split
  · exact .inl ⟨by simp only; omega, by simp only; omega⟩
  · rename_i h
    simp only [Bool.or_eq_true, decide_eq_true_eq, not_or, Int.not_le] at h
    exact .inr h

theorem newSize_fits (q : Nat) (s : Snap) (h0 : 0 < s.availC) (h1 : 0 < s.availR) :
    ((newSize q s).1 : Int) ≤ s.availC ∧ ((newSize q s).2 : Int) ≤ s.availR := by
  have := newSize_cases q s h0 h1
  omega

theorem newSize_pos (q : Nat) (hq : 0 < q) (s : Snap) (h0 : 0 < s.availC) (h1 : 0 < s.availR) : 0 < (newSize q s).1 ∧ 0 < (newSize q s).2 := by
  simp only [newSize]
  split
  · exact ⟨by simp only; omega, by simp only; omega⟩
  · exact ⟨by simp only; omega, Nat.mul_pos (by omega) hq⟩

theorem of_newSize {q : Nat} {s : Snap} {jc jr : Nat} (h : some (newSize q s) = some (jc, jr)) : jc = (newSize q s).1 ∧ jr = (newSize q s).2 :=
  have e := Option.some.inj h
  ⟨(congrArg Prod.fst e).symm, (congrArg Prod.snd e).symm⟩

/-- in order: the size of a first container, twice that of a failed one, that of a suspended one -/
theorem prSize_some {q : Nat} {s : Snap} {job : Job} {jc jr : Nat} (h : prSize q s job = some (jc, jr)) :
    (jc = (newSize q s).1 ∧ jr = (newSize q s).2) ∨ ∃ rs, job.retry = some rs ∧ (jc : Int) ≤ s.availC ∧ (jr : Int) ≤ s.availR ∧
      ((jc = 2 * rs.oldCpu ∧ jr = 2 * rs.oldRam) ∨ (jc = rs.oldCpu ∧ jr = rs.oldRam)) := by
  unfold prSize at h
  cases hrs : job.retry with
  | none => rw [hrs] at h; exact .inl (of_newSize h)
  | some rs =>
    rw [hrs] at h
    rcases of_ite_eq h with ⟨_, h⟩ | ⟨_, h⟩
    · rcases of_ite_eq h with ⟨_, h⟩ | ⟨hfit, h⟩
      · cases h
      · rcases of_ite_eq h with ⟨_, h⟩ | ⟨_, h⟩
        · cases h
        · cases h
          rw [Bool.or_eq_true, decide_eq_true_eq, decide_eq_true_eq] at hfit
          exact .inr ⟨rs, rfl, by omega, by omega, .inl ⟨rfl, rfl⟩⟩
    · rcases of_ite_eq h with ⟨hfit, h⟩ | ⟨_, h⟩
      · cases h
        rw [Bool.and_eq_true, decide_eq_true_eq, decide_eq_true_eq] at hfit
        exact .inr ⟨rs, rfl, Int.le_of_lt hfit.1, Int.le_of_lt hfit.2, .inr ⟨rfl, rfl⟩⟩
      · exact .inl (of_newSize h)

theorem prSize_fits (q : Nat) (s : Snap) (job : Job) (jc jr : Nat) (h0 : 0 < s.availC) (h1 : 0 < s.availR)
    (h : prSize q s job = some (jc, jr)) : (jc : Int) ≤ s.availC ∧ (jr : Int) ≤ s.availR := by
  rcases prSize_some h with ⟨rfl, rfl⟩ | ⟨_, _, fc, fr, _⟩
  · exact newSize_fits q s h0 h1
  · exact ⟨fc, fr⟩

/-- in order: the size of a first container, all that is left, twice that of an earlier container, that of an earlier container -/
theorem ppSize_some {q : Nat} {s : Snap} {job : Job} {jc jr : Nat} (h : ppSize q s job = some (jc, jr)) :
    (jc = (newSize q s).1 ∧ jr = (newSize q s).2) ∨ (jc = s.availC.toNat ∧ jr = s.availR.toNat) ∨
    ∃ rs, job.retry = some rs ∧ (jc : Int) < s.availC ∧ (jr : Int) < s.availR ∧
      ((jc = 2 * rs.oldCpu ∧ jr = 2 * rs.oldRam) ∨ (jc = rs.oldCpu ∧ jr = rs.oldRam)) := by
  unfold ppSize at h
  cases hrs : job.retry with
  | none => rw [hrs] at h; exact .inl (of_newSize h)
  | some rs =>
    rw [hrs] at h
    rcases of_ite_eq h with ⟨_, h⟩ | ⟨_, h⟩
    · rcases of_ite_eq h with ⟨_, h⟩ | ⟨_, h⟩
      · cases h
      · rcases of_ite_eq h with ⟨_, h⟩ | ⟨hlt, h⟩
        · cases h
          exact .inr (.inl ⟨rfl, rfl⟩)
        · cases h
          rw [Bool.or_eq_true, decide_eq_true_eq, decide_eq_true_eq] at hlt
          exact .inr (.inr ⟨rs, rfl, by omega, by omega, .inl ⟨rfl, rfl⟩⟩)
    · rcases of_ite_eq h with ⟨hfit, h⟩ | ⟨_, h⟩
      · rw [Bool.and_eq_true, decide_eq_true_eq, decide_eq_true_eq] at hfit
        rcases of_ite_eq h with ⟨_, h⟩ | ⟨hne, h⟩
        · cases h
          exact .inr (.inl ⟨rfl, rfl⟩)
        · cases h
          rw [Bool.or_eq_true, beq_iff_eq, beq_iff_eq] at hne
          exact .inr (.inr ⟨rs, rfl, by omega, by omega, .inr ⟨rfl, rfl⟩⟩)
      · exact .inl (of_newSize h)

theorem ppSize_both (q : Nat) (hq : 0 < q) (s : Snap) (job : Job) (jc jr : Nat) (h0 : 0 < s.availC) (h1 : 0 < s.availR)
    (hr : ∀ rs, job.retry = some rs → 0 < rs.oldCpu ∧ 0 < rs.oldRam) (h : ppSize q s job = some (jc, jr)) :
    0 < jc ∧ 0 < jr ∧ (((jc : Int) = s.availC ∧ (jr : Int) = s.availR) ∨ ((jc : Int) < s.availC ∧ (jr : Int) < s.availR)) := by
  rcases ppSize_some h with ⟨rfl, rfl⟩ | ⟨rfl, rfl⟩ | ⟨rs, hrs, lc, lr, hsz⟩
  · exact ⟨(newSize_pos q hq s h0 h1).1, (newSize_pos q hq s h0 h1).2, newSize_cases q s h0 h1⟩
  · exact ⟨Int.pos_iff_toNat_pos.mp h0, Int.pos_iff_toNat_pos.mp h1,
      .inl ⟨Int.toNat_of_nonneg (Int.le_of_lt h0), Int.toNat_of_nonneg (Int.le_of_lt h1)⟩⟩
  · obtain ⟨pc, pr⟩ := hr rs hrs
    rcases hsz with ⟨rfl, rfl⟩ | ⟨rfl, rfl⟩
    · exact ⟨Nat.mul_pos (by decide) pc, Nat.mul_pos (by decide) pr, .inr ⟨lc, lr⟩⟩
    · exact ⟨pc, pr, .inr ⟨lc, lr⟩⟩

theorem ppSize_fits (q : Nat) (s : Snap) (job : Job) (jc jr : Nat) (h0 : 0 < s.availC) (h1 : 0 < s.availR)
    (h : ppSize q s job = some (jc, jr)) : (jc : Int) ≤ s.availC ∧ (jr : Int) ≤ s.availR := by
  rcases ppSize_some h with ⟨rfl, rfl⟩ | ⟨rfl, rfl⟩ | ⟨_, _, lc, lr, _⟩
  · exact newSize_fits q s h0 h1
  · exact ⟨by omega, by omega⟩
  · exact ⟨Int.le_of_lt lc, Int.le_of_lt lr⟩

theorem _root_.Eudoxia.Prio.QRun.budget {pick : Pick} {size : Sizer}
    (hpick : ∀ sn p, NonNegS sn → pick sn = some (some p) → p < sn.length ∧ 0 < (sn.getD p default).availC ∧ 0 < (sn.getD p default).availR)
    (hfit : ∀ s j jc jr, 0 < s.availC → 0 < s.availR → size s j = some (jc, jr) → (jc : Int) ≤ s.availC ∧ (jr : Int) ≤ s.availR)
    {sn sn' : List Snap} {js : List Job} {new : List Asg} (h : QRun pick size sn js new sn') (hn : NonNegS sn) :
    NonNegS sn' ∧ Budget sn sn' new := by
  induction h with
  | nil => exact ⟨hn, budget_refl _⟩
  | skip _ _ _ ih => exact ih hn
  | place hp hs _ ih =>
    obtain ⟨hlt, h0, h1⟩ := hpick _ _ hn hp
    obtain ⟨fc, fr⟩ := hfit _ _ _ _ h0 h1 hs
    obtain ⟨n, b⟩ := ih (snapSub_nonneg _ _ _ _ hn fc fr)
    exact ⟨n, budget_step _ hlt ⟨rfl, rfl, rfl⟩ b⟩

theorem gQueue_budget {pick : Pick} {size : Sizer}
    (hpick : ∀ sn p, NonNegS sn → pick sn = some (some p) → p < sn.length ∧ 0 < (sn.getD p default).availC ∧ 0 < (sn.getD p default).availR)
    (hfit : ∀ s j jc jr, 0 < s.availC → 0 < s.availR → size s j = some (jc, jr) → (jc : Int) ≤ s.availC ∧ (jr : Int) ≤ s.availR)
    {jobs : List Job} {w w' : World} {sn sn' : List Snap} {k k' : Nat} {acc out : List Asg}
    (h : gQueue pick size w jobs sn k acc = .ok (w', sn', k', out)) (hn : NonNegS sn) :
    NonNegS sn' ∧ sn'.length = sn.length ∧ ∃ new, out = acc ++ new ∧ Budget sn sn' new := by
  obtain ⟨_, new, e, _, _, _, _, r⟩ := gQueue_spec h
  obtain ⟨n, b⟩ := r.budget hpick hfit hn
  exact ⟨n, r.length, new, e, b⟩

theorem prPick_open (sn : List Snap) (p : Nat) (_ : NonNegS sn) (h : prPick sn = some (some p)) :
    p < sn.length ∧ 0 < (sn.getD p default).availC ∧ 0 < (sn.getD p default).availR :=
  let ⟨hp, hopen, _⟩ := C12.bestPool_spec sn p (Option.some.inj h)
  ⟨hp, hopen⟩

theorem ppPick_open (pool : Nat) (sn : List Snap) (p : Nat) (hn : NonNegS sn) (h : ppPick pool sn = some (some p)) :
    p < sn.length ∧ 0 < (sn.getD p default).availC ∧ 0 < (sn.getD p default).availR := by
  obtain ⟨rfl, hr, hc⟩ := ppPick_some h
  have hnn := getD_nonneg hn p
  refine ⟨Decidable.byContradiction fun hge => hr ?_, by omega, by omega⟩
  rw [List.getD_eq_getElem?_getD, List.getElem?_eq_none (by omega)]
  rfl

theorem prRun_pool {size : Sizer} {sn sn' : List Snap} {js : List Job} {new : List Asg} (r : QRun prPick size sn js new sn') :
    ∀ a ∈ new, a.pool < sn.length :=
  r.pool (n := sn.length) (fun sn p hn hp => hn ▸ (C12.bestPool_spec sn p (Option.some.inj hp)).1) rfl

theorem prQueue_budget {q : Nat} {jobs : List Job} {w w' : World} {sn sn' : List Snap} {k k' : Nat} {acc out : List Asg}
    (h : prQueue q w jobs sn k acc = .ok (w', sn', k', out)) (hn : NonNegS sn) :
    NonNegS sn' ∧ sn'.length = sn.length ∧ ∃ new, out = acc ++ new ∧ Budget sn sn' new := by
  rw [prQueue_eq] at h
  exact gQueue_budget prPick_open (prSize_fits q) h hn

theorem ppQueue_budget {q pool : Nat} {jobs : List Job} {w w' : World} {sn sn' : List Snap} {k k' : Nat} {acc out : List Asg}
    (h : ppQueue q pool w jobs sn k acc = .ok (w', sn', k', out)) (hn : NonNegS sn) :
    NonNegS sn' ∧ sn'.length = sn.length ∧ ∃ new, out = acc ++ new ∧ Budget sn sn' new := by
  rw [ppQueue_eq] at h
  exact gQueue_budget (ppPick_open pool) (ppSize_fits q) h hn

theorem budget_trans {a b c : List Snap} {x y : List Asg} (h1 : Budget a b x) (h2 : Budget b c y) : Budget a c (x ++ y) := by
  intro p
  obtain ⟨p1, p2⟩ := h1 p
  obtain ⟨q1, q2⟩ := h2 p
  rw [on_append, cpuReq_append, ramReq_append]
  exact ⟨add_add_of_eq p1 q1, add_add_of_eq p2 q2⟩

theorem nonNegS_snaps {w : World} (h : ∀ p ∈ w.pools, 0 ≤ p.availC ∧ 0 ≤ p.availR) : NonNegS (snaps w) := by
  intro s hs
  obtain ⟨p, hp, rfl⟩ := List.mem_map.mp hs
  exact h p hp

theorem snaps_getD (w : World) (p : Nat) (hp : p < w.pools.length) :
    ((snaps w).getD p default).availC = (w.pools.getD p default).availC ∧ ((snaps w).getD p default).availR = (w.pools.getD p default).availR := by
  unfold snaps
  rw [List.getD_eq_getElem?_getD, List.getD_eq_getElem?_getD, List.getElem?_map]
  rw [List.getElem?_eq_getElem hp]
  simp

theorem accepted_of_budget (w : World) (snEnd : List Snap) (asgs : List Asg) (hb : Budget (snaps w) snEnd asgs) (hn : NonNegS snEnd)
    (p : Nat) (hp : p < w.pools.length) : verifyAssignments w.cfg (w.pools.getD p default) (on asgs p) = .ok () := by
  obtain ⟨b1, b2⟩ := hb p
  obtain ⟨s1, s2⟩ := snaps_getD w p hp
  obtain ⟨n1, n2⟩ := getD_nonneg hn p
  unfold verifyAssignments
  rw [if_neg (by omega)]
  split
  · rename_i h
    simp only [Bool.and_eq_true, Bool.not_eq_true', decide_eq_true_eq] at h
    omega
  · rfl

theorem ppRound_ok {w w' : World} {st st' : St} {results : List Res} {newP : List Nat} {dec : Decision}
    (h : ppRound w st results newP = .ok (w', st', dec)) :
    ∃ st0 w1 sn1 k1 a1 w2 sn2 k2 a2 sn3 k3 a3, ppEnqueue w st results newP = .ok st0 ∧
      ppQueue w.cfg.q 0 w st0.qry (snaps w) 0 [] = .ok (w1, sn1, k1, a1) ∧ ppQueue w.cfg.q 0 w1 st0.inter sn1 0 [] = .ok (w2, sn2, k2, a2) ∧
      ppQueue w.cfg.q 1 w2 st0.batch sn2 0 [] = .ok (w', sn3, k3, a3) ∧
      st' = { st0 with qry := st0.qry.drop k1, inter := st0.inter.drop k2, batch := st0.batch.drop k3 } ∧ dec = { asgs := a1 ++ a2 ++ a3 } := by
  unfold ppRound at h
  split at h
  · cases h
  · simp only at h
    repeat' split at h
    all_goals cases h
    exact ⟨_, _, _, _, _, _, _, _, _, _, _, _, ‹_›, ‹_›, ‹_›, ‹_›, rfl, rfl⟩

theorem prRound_ok {w w' : World} {st st' : St} {results : List Res} {newP : List Nat} {dec : Decision}
    (h : prRound w st results newP = .ok (w', st', dec)) :
    let stq := prRequeueSuspended w (prNoteSuspending w (prEnqueue w st results newP))
    ∃ w1 w2 sn1 sn2 sn3 k1 k2 k3 a1 a2 a3,
      prQueue w.cfg.q w stq.qry (snaps w) 0 [] = .ok (w1, sn1, k1, a1) ∧ prQueue w.cfg.q w1 stq.inter sn1 0 [] = .ok (w2, sn2, k2, a2) ∧
      prQueue w.cfg.q w2 stq.batch sn2 0 [] = .ok (w', sn3, k3, a3) ∧ dec.asgs = a1 ++ a2 ++ a3 ∧
      dec.sus = (if (stq.qry.drop k1).isEmpty then [] else prSuspend (w.pools.map (·.active)) (stq.qry.drop k1).length) ∧
      st' = dec.sus.foldl (fun (s : St) (x : Nat × Nat) =>
        match findCtr (w.pools.getD x.1 default).active x.2 with
        | some c => { s with susp := dictSet s.susp c.cid (jobOfCtr w' x.1 c) }
        | none => s) { stq with qry := stq.qry.drop k1, inter := stq.inter.drop k2, batch := stq.batch.drop k3 } := by
  unfold prRound at h
  simp only at h
  split at h
  · cases h
  · split at h
    · cases h
    · split at h
      · cases h
      · cases h
        exact ⟨_, _, _, _, _, _, _, _, _, _, _, ‹_›, ‹_›, ‹_›, rfl, rfl, rfl⟩

theorem ppRound_built {w w' : World} {st st' : St} {results : List Res} {newP : List Nat} {dec : Decision}
    (h : ppRound w st results newP = .ok (w', st', dec)) : Built w dec.asgs w' := by
  obtain ⟨_, _, _, _, _, _, _, _, _, _, _, _, _, h1, h2, h3, _, rfl⟩ := ppRound_ok h
  rw [ppQueue_eq] at h1 h2 h3
  exact ((gQueue_built h1).append (gQueue_built h2)).append (gQueue_built h3)

theorem prRound_built {w w' : World} {st st' : St} {results : List Res} {newP : List Nat} {dec : Decision}
    (h : prRound w st results newP = .ok (w', st', dec)) : Built w dec.asgs w' := by
  obtain ⟨_, _, _, _, _, _, _, _, _, _, _, h1, h2, h3, hd, _⟩ := prRound_ok h
  rw [prQueue_eq] at h1 h2 h3
  rw [hd]
  exact ((gQueue_built h1).append (gQueue_built h2)).append (gQueue_built h3)

theorem findCtr_of_mem_nodup {l : List Ctr} {c : Ctr} (hc : c ∈ l) (hnd : (l.map (·.cid)).Nodup) : findCtr l c.cid = some c :=
  find?_of_mem_nodup hnd hc

/-- `hnd` is part of the pool invariant `PoolInv`, proved for every reachable world -/
theorem verifySuspends_ok (p : Pool) (hnd : (p.active.map (·.cid)).Nodup) : ∀ (l : List Nat),
    (∀ cid ∈ l, ∃ c ∈ p.active, c.cid = cid ∧ c.canSuspend = true) → verifySuspends p l = .ok () := by
  intro l
  induction l with
  | nil => intro _; rfl
  | cons x xs ih =>
    intro h
    obtain ⟨c, hc, rfl, hs⟩ := h x List.mem_cons_self
    exact verifySuspends_cons_ok.mpr ⟨c, findCtr_of_mem_nodup hc hnd, hs, ih fun cid hcid => h cid (List.mem_cons_of_mem _ hcid)⟩

end Eudoxia.C08
