/-! Facts about lists that are not about the simulator. -/
namespace Eudoxia

theorem getD_set {α : Type} (l : List α) (k j : Nat) (v d : α) :
    (l.set k v).getD j d = if j = k ∧ k < l.length then v else l.getD j d := by
  rw [List.getD_eq_getElem?_getD, List.getD_eq_getElem?_getD, List.getElem?_set]
  by_cases e : k = j
  · subst e
    by_cases h : k < l.length
    · simp [h]
    · simp [h]
  · simp [e, Ne.symm e]

theorem getD_set_of_lt {α : Type} {l : List α} {k : Nat} (hk : k < l.length) (j : Nat) (v d : α) :
    (l.set k v).getD j d = if j = k then v else l.getD j d := by
  rw [getD_set]; simp only [hk, and_true]

theorem find?_of_mem_nodup {α β : Type} [BEq β] [LawfulBEq β] {f : α → β} {l : List α} (h : (l.map f).Nodup) {x : α} (hx : x ∈ l) :
    l.find? (f · == f x) = some x := by
  induction l with
  | nil => cases hx
  | cons z zs ih =>
    rw [List.map_cons, List.nodup_cons] at h
    rcases List.mem_cons.mp hx with rfl | hx'
    · simp
    · have hne : f z ≠ f x := fun e => h.1 (e ▸ List.mem_map_of_mem hx')
      rw [List.find?_cons_of_neg (by simpa using hne)]
      exact ih h.2 hx'

theorem foldlM_ok {ε α β : Type} {f : β → α → Except ε β} (P : List α → β → Prop) {l : List α} {b : β} (h0 : P [] b)
    (hstep : ∀ pre a post b, l = pre ++ a :: post → P pre b → ∃ b', f b a = .ok b' ∧ P (pre ++ [a]) b') :
    ∃ b', l.foldlM f b = .ok b' ∧ P l b' := by
  suffices h : ∀ (rest pre : List α) (b : β), l = pre ++ rest → P pre b → ∃ b', rest.foldlM f b = .ok b' ∧ P l b' from h l [] b rfl h0
  intro rest
  induction rest with
  | nil => intro pre b e hp; exact ⟨b, rfl, by rw [e, List.append_nil]; exact hp⟩
  | cons a rest ih =>
    intro pre b e hp
    obtain ⟨b1, hf, hp1⟩ := hstep pre a rest b e hp
    obtain ⟨b', hr, hp'⟩ := ih (pre ++ [a]) b1 (by rw [e, List.append_assoc]; rfl) hp1
    exact ⟨b', by rw [List.foldlM_cons, hf]; exact hr, hp'⟩

theorem foldlM_inv {ε α β : Type} {f : β → α → Except ε β} (P : List α → β → Prop) {l : List α} {b b' : β} (h0 : P [] b)
    (hstep : ∀ pre a post b b', l = pre ++ a :: post → P pre b → f b a = .ok b' → P (pre ++ [a]) b')
    (h : l.foldlM f b = .ok b') : P l b' := by
  suffices hh : ∀ (rest pre : List α) (b : β), l = pre ++ rest → P pre b → rest.foldlM f b = .ok b' → P l b' from hh l [] b rfl h0 h
  intro rest
  induction rest with
  | nil => intro pre b e hp hr; cases hr; rw [e, List.append_nil]; exact hp
  | cons a rest ih =>
    intro pre b e hp hr
    rw [List.foldlM_cons] at hr
    cases hf : f b a with
    | error x => rw [hf] at hr; cases hr
    | ok b1 =>
      rw [hf] at hr
      exact ih (pre ++ [a]) b1 (by rw [e, List.append_assoc]; rfl) (hstep pre a rest b b1 e hp hf) hr

theorem foldl_inv {α β : Type} {f : β → α → β} (P : List α → β → Prop) {l : List α} {b : β} (h0 : P [] b)
    (hstep : ∀ pre a post b, l = pre ++ a :: post → P pre b → P (pre ++ [a]) (f b a)) : P l (l.foldl f b) := by
  suffices h : ∀ (rest pre : List α) (b : β), l = pre ++ rest → P pre b → P l (rest.foldl f b) from h l [] b rfl h0
  intro rest
  induction rest with
  | nil => intro pre b e hp; rw [e, List.append_nil]; exact hp
  | cons a rest ih =>
    intro pre b e hp
    exact ih (pre ++ [a]) (f b a) (by rw [e, List.append_assoc]; rfl) (hstep pre a rest b e hp)

theorem sublist_flatMap {α β : Type} (f : α → List β) {l₁ l₂ : List α} (h : l₁.Sublist l₂) :
    (l₁.flatMap f).Sublist (l₂.flatMap f) := by
  induction h with
  | slnil => exact .slnil
  | cons a _ ih => rw [List.flatMap_cons]; exact ih.trans (List.sublist_append_right _ _)
  | cons_cons a _ ih => rw [List.flatMap_cons, List.flatMap_cons]; exact (List.Sublist.refl _).append ih

theorem ite_isEmpty_foldl {α β : Type} (f : β → α → β) (b : β) (l : List α) : (if l.isEmpty then b else l.foldl f b) = l.foldl f b := by
  cases l <;> rfl

inductive Forall₂ {α β : Type} (R : α → β → Prop) : List α → List β → Prop
  | nil : Forall₂ R [] []
  | cons {a b l l'} : R a b → Forall₂ R l l' → Forall₂ R (a :: l) (b :: l')

theorem Forall₂.imp {α β : Type} {R S : α → β → Prop} {l : List α} {l' : List β} (h : Forall₂ R l l')
    (hRS : ∀ a b, R a b → S a b) : Forall₂ S l l' := by
  induction h with
  | nil => exact .nil
  | cons hab _ ih => exact .cons (hRS _ _ hab) ih

theorem Forall₂.map_eq {α β γ : Type} {R : α → β → Prop} {l : List α} {l' : List β} (h : Forall₂ R l l')
    {f : β → γ} {g : α → γ} (hfg : ∀ a b, R a b → f b = g a) : l'.map f = l.map g := by
  induction h with
  | nil => rfl
  | cons hab _ ih => rw [List.map_cons, List.map_cons, hfg _ _ hab, ih]

theorem Forall₂.mem_right {α β : Type} {R : α → β → Prop} {l : List α} {l' : List β} (h : Forall₂ R l l')
    {b : β} (hb : b ∈ l') : ∃ a ∈ l, R a b := by
  induction h with
  | nil => cases hb
  | cons hab _ ih =>
    rcases List.mem_cons.mp hb with rfl | hb
    · exact ⟨_, List.mem_cons_self, hab⟩
    · obtain ⟨a, ha, hr⟩ := ih hb
      exact ⟨a, List.mem_cons_of_mem _ ha, hr⟩

theorem Forall₂.mem_left {α β : Type} {R : α → β → Prop} {l : List α} {l' : List β} (h : Forall₂ R l l')
    {a : α} (ha : a ∈ l) : ∃ b ∈ l', R a b := by
  induction h with
  | nil => cases ha
  | cons hab _ ih =>
    rcases List.mem_cons.mp ha with rfl | ha
    · exact ⟨_, List.mem_cons_self, hab⟩
    · obtain ⟨b, hb, hr⟩ := ih ha
      exact ⟨b, List.mem_cons_of_mem _ hb, hr⟩

end Eudoxia
