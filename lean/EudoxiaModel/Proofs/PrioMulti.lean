import EudoxiaModel.Proofs.PoolLoop
import EudoxiaModel.Proofs.WorldDeadSusp
import EudoxiaModel.Proofs.GatesSusp
import EudoxiaModel.Proofs.Cids
import EudoxiaModel.Proofs.CtrKept
import EudoxiaModel.Proofs.TickFrame
import EudoxiaModel.Proofs.PriorityLoop
import EudoxiaModel.Proofs.Preempt
/-! The priority scheduler with multi-operator containers — the mode in which it pre-empts — in closed loop with the executor. -/
namespace Eudoxia.PM
open Eudoxia Eudoxia.Prio Eudoxia.PP OpState Extracted

theorem getD_mem {l : List Pool} {k : Nat} (h : k < l.length) : l.getD k default ∈ l := by
  rw [List.getD_eq_getElem?_getD, List.getElem?_eq_getElem h]; exact List.getElem_mem h

theorem pool_index {l : List Pool} {p : Pool} (h : p ∈ l) : ∃ k, k < l.length ∧ l.getD k default = p := by
  obtain ⟨k, hk, e⟩ := List.mem_iff_getElem.mp h
  exact ⟨k, hk, by rw [List.getD_eq_getElem?_getD, List.getElem?_eq_getElem hk]; exact e⟩

theorem exists_mem_append_left {α : Type} {p : α → Prop} {l : List α} (l' : List α) (h : ∃ x ∈ l, p x) : ∃ x ∈ l ++ l', p x :=
  let ⟨x, hx, hp⟩ := h
  ⟨x, List.mem_append_left l' hx, hp⟩

theorem lt_of_mem_active {l : List Pool} {k : Nat} {c : Ctr} (h : c ∈ (l.getD k default).active) : k < l.length := by
  apply Decidable.byContradiction
  intro hk
  rw [List.getD_eq_getElem?_getD, List.getElem?_eq_none (by omega)] at h
  cases h

theorem range_getD_flatMap {β : Type} (l : List Pool) (f : Pool → List β) :
    (List.range l.length).flatMap (fun k => f (l.getD k default)) = l.flatMap f := by
  induction l with
  | nil => rfl
  | cons p ps ih =>
    rw [List.length_cons, List.range_succ_eq_map, List.flatMap_cons, List.flatMap_cons, List.flatMap_map]
    simp only [List.getD_cons_zero, List.getD_cons_succ]
    rw [ih]

/-- `ops` is *all* the unfinished work of one pipeline -/
def WholeOps (pipes : Array PipeInfo) (s : Store) (ops : List Nat) : Prop :=
  ∃ P, (∀ o ∈ ops, o ∈ (pipes.getD P default).order) ∧ ∀ o ∈ (pipes.getD P default).order, o ∈ ops ∨ s.stOf o = completed

theorem wholeOps_mono {pipes : Array PipeInfo} {s s' : Store} {ops : List Nat} (h : WholeOps pipes s ops) (hs : Steps s s') : WholeOps pipes s' ops := by
  obtain ⟨P, h1, h2⟩ := h
  exact ⟨P, h1, fun o ho => (h2 o ho).imp id (fun hc => completed_final hs o hc)⟩

theorem wholeOps_drop {pipes : Array PipeInfo} {s : Store} {l : List Nat} (h : WholeOps pipes s l) (i : Nat) (hp : ∀ o ∈ l.take i, s.stOf o = completed) :
    WholeOps pipes s (l.drop i) := by
  obtain ⟨P, h1, h2⟩ := h
  refine ⟨P, fun o ho => h1 o (List.mem_of_mem_drop ho), fun o ho => ?_⟩
  rcases h2 o ho with h | h
  · rw [← List.take_append_drop i l] at h
    exact (List.mem_append.mp h).symm.imp id (hp o)
  · exact Or.inr h

def JobsWhole (w : World) (js : List Job) : Prop := ∀ j ∈ js, WholeOps w.pipes w.store j.ops

theorem mem_unfinished {s : Store} {c : Ctr} (f : Fin s c) {o : Nat} (ho : o ∈ c.ops) (hn : s.stOf o ≠ completed) : o ∈ c.unfinished := by
  rw [← List.take_append_drop c.curOpIdx c.ops] at ho
  exact (List.mem_append.mp ho).elim (fun h => absurd (f.pre o h) hn) id

/-- what `prEnqueue` puts into the one job it makes for pipeline `pid`; `Q0`: the operators in the queues -/
def freeOps (w : World) (Q0 : List Nat) (pid : Nat) : List Nat := (w.getOps pid assignable false).filter (fun o => !Q0.contains o)

theorem freeOps_eq (w : World) (Q0 : List Nat) (pid : Nat) :
    freeOps w Q0 pid = (w.pipes.getD pid default).order.filter (fun r => assignable.contains (w.store.stOf r) && !Q0.contains r) := by
  unfold freeOps World.getOps
  rw [List.filter_filter]
  congr 1
  funext r
  simp [Bool.and_comm]

theorem mem_freeOps {w : World} {Q0 : List Nat} {pid o : Nat} :
    o ∈ freeOps w Q0 pid ↔ o ∈ (w.pipes.getD pid default).order ∧ w.store.stOf o ∈ assignable ∧ o ∉ Q0 := by
  rw [freeOps_eq]
  simp [List.mem_filter]

/-- `prEnqueue` for one pipeline when containers may hold several operators -/
def enqM (w : World) (Q0 : List Nat) (lookup : Nat → Option Retry) (st : St) (pid : Nat) : St :=
  if (freeOps w Q0 pid).isEmpty then st
  else st.push { prio := w.prioOf pid, pid := pid, ops := freeOps w Q0 pid, retry := lookup ((freeOps w Q0 pid).headD 0) } (w.prioOf pid)

theorem prEnqueue_multi (w : World) (st : St) (results : List Res) (newP : List Nat) (hm : w.cfg.multiOp = true) :
    prEnqueue w st results newP = (prTouched w results newP).foldl (enqM w (st.jobs.flatMap (·.ops)) (retryLookup w results)) st := by
  unfold prEnqueue
  simp only [hm, Bool.not_true, ↓reduceIte]
  split
  · rename_i he
    have : prTouched w results newP = [] := by simpa using he
    rw [this]; rfl
  · rfl

/-- nothing of pipeline `P` is in a container or in a queue -/
def QuietP (w : World) (Q0 : List Nat) (P : Nat) : Prop :=
  ∀ o ∈ (w.pipes.getD P default).order, w.store.stOf o = completed ∨ (w.store.stOf o ∈ assignable ∧ o ∉ Q0)

theorem enqM_job {w : World} (wf : w.WFP) (hs : w.SegsOK) (htopo : w.Topo) {Q0 : List Nat} {P : Nat} (hq : QuietP w Q0 P)
    (hne : freeOps w Q0 P ≠ []) {rt : Option Retry} (hrt : ∀ rs, rt = some rs → 0 < rs.oldCpu ∧ 0 < rs.oldRam) :
    JobOKm w { prio := w.prioOf P, pid := P, ops := freeOps w Q0 P, retry := rt } ∧ WholeOps w.pipes w.store (freeOps w Q0 P) := by
  refine ⟨⟨hne, ?_, fun o ho => ?_, ?_, hrt⟩, ⟨P, fun o ho => (mem_freeOps.mp ho).1, fun o ho => ?_⟩⟩
  · rw [freeOps_eq]; exact (wf P).1.sublist List.filter_sublist
  · obtain ⟨h1, h2, _⟩ := mem_freeOps.mp ho
    exact ⟨(wf P).2 o h1, h2, hs P o h1⟩
  · rw [freeOps_eq]
    exact htopo.parentsOK_filter P _ (fun _ _ _ q hq' => (hq q hq').imp id (fun h => by simp [h.1, h.2]))
  · exact (hq o ho).symm.imp (fun h => mem_freeOps.mpr ⟨ho, h⟩) id

structure EnqInv (w : World) (Q0 : List Nat) (d : List (Nat × Job)) (done : List Nat) (s : St) : Prop where
  jobs : JobsOKm w s.jobs
  whole : JobsWhole w s.jobs
  susp : s.susp = d
  orig : ∀ o ∈ s.jobs.flatMap (·.ops), o ∈ Q0 ∨ w.store.pidOf o ∈ done

theorem enqM_ok {w : World} (wf : w.WFP) (hs : w.SegsOK) (hpid : w.PidOK) (htopo : w.Topo) {Q0 : List Nat} {lookup : Nat → Option Retry}
    (hl : ∀ o rs, lookup o = some rs → 0 < rs.oldCpu ∧ 0 < rs.oldRam) {d : List (Nat × Job)} {done : List Nat} {s : St} {pid : Nat}
    (hq : QuietP w Q0 pid) (hd : pid ∉ done) (I : EnqInv w Q0 d done s) : EnqInv w Q0 d (done ++ [pid]) (enqM w Q0 lookup s pid) := by
  unfold enqM
  split
  · exact ⟨I.jobs, I.whole, I.susp, fun o ho => (I.orig o ho).imp id (List.mem_append_left _)⟩
  · rename_i hne
    obtain ⟨jok, jwh⟩ := enqM_job wf hs htopo hq (by simpa using hne) (hl _)
    have hnew : ∀ o ∈ freeOps w Q0 pid, o ∉ s.jobs.flatMap (·.ops) := by
      intro o ho hx
      obtain ⟨a, _, b⟩ := mem_freeOps.mp ho
      rcases I.orig o hx with h | h
      · exact b h
      · rw [hpid pid o a] at h; exact hd h
    refine ⟨jobsOKm_push _ I.jobs jok hnew, push_forall _ I.whole jwh, (push_susp _ _ _).trans I.susp, fun o ho => ?_⟩
    rcases List.mem_append.mp ((push_ops_perm s _ _).mem_iff.mp ho) with h | h
    · exact (I.orig o h).imp id (List.mem_append_left _)
    · have h : o ∈ freeOps w Q0 pid := h
      exact Or.inr (by rw [hpid pid o (mem_freeOps.mp h).1]; exact List.mem_append_right done List.mem_cons_self)

theorem prEnqueueM_ok (w : World) (st : St) (results : List Res) (newP : List Nat) (hm : w.cfg.multiOp = true)
    (wf : w.WFP) (hs : w.SegsOK) (hpid : w.PidOK) (htopo : w.Topo) (hj : JobsOKm w st.jobs) (hw : JobsWhole w st.jobs) (hnd : newP.Nodup)
    (hres : ∀ r ∈ results, 0 < r.cpu ∧ 0 < r.ram) (hquiet : ∀ pid ∈ prTouched w results newP, QuietP w (st.jobs.flatMap (·.ops)) pid) :
    EnqInv w (st.jobs.flatMap (·.ops)) st.susp (prTouched w results newP) (prEnqueue w st results newP) := by
  rw [prEnqueue_multi w st results newP hm]
  refine foldl_inv (EnqInv w (st.jobs.flatMap fun j : Job => j.ops) st.susp) ⟨hj, hw, rfl, fun o ho => Or.inl ho⟩ (fun done pid rest s e I => ?_)
  have hnd' := prTouched_nodup w results newP hnd
  rw [e] at hnd'
  exact enqM_ok wf hs hpid htopo (retryLookup_pos w results hres) (hquiet pid (by rw [e]; simp))
    (fun hin => (List.nodup_append.mp hnd').2.2 pid hin pid List.mem_cons_self rfl) I

theorem mem_prTouched {w : World} {cs : List Ctr} {newP : List Nat} {pid : Nat} (h : pid ∈ prTouched w (cs.map mkRes) newP) :
    pid ∈ newP ∨ ∃ c ∈ cs, ∃ o ∈ c.ops, w.store.pidOf o = pid := by
  unfold prTouched at h
  rw [← List.foldl_flatMap] at h
  have key : ∀ (ops acc : List Nat), pid ∈ ops.foldl (fun acc o => dedupAppend acc (w.store.pidOf o)) acc → pid ∈ acc ∨ ∃ o ∈ ops, w.store.pidOf o = pid :=
    fun ops acc => foldl_inv (fun pre a => pid ∈ a → pid ∈ acc ∨ ∃ o ∈ pre, w.store.pidOf o = pid) Or.inl fun pre o _ a _ ih h =>
      (mem_dedupAppend h).elim (fun h1 => (ih h1).imp id (exists_mem_append_left [o]))
        fun h2 => Or.inr ⟨o, List.mem_append_right _ List.mem_cons_self, h2.symm⟩
  refine (key _ _ h).imp id (fun ⟨o, ho, e⟩ => ?_)
  obtain ⟨r, hr, hor⟩ := List.mem_flatMap.mp ho
  obtain ⟨c, hc, rfl⟩ := List.mem_map.mp hr
  exact ⟨c, hc, o, hor, e⟩

/-! The dictionary `s.suspending` is an association list: `dictSet` overwrites or appends one entry, `setAll` a list of them. -/

theorem mem_dictSet {d : List (Nat × Job)} {k : Nat} {j : Job} {x : Nat × Job} : x ∈ dictSet d k j ↔ x = (k, j) ∨ (x ∈ d ∧ x.1 ≠ k) := by
  unfold dictSet
  by_cases hany : d.any (·.1 == k) = true
  · obtain ⟨y0, hy0, hk0⟩ := List.any_eq_true.mp hany
    rw [if_pos hany, List.mem_map]
    constructor
    · rintro ⟨y, hy, e⟩
      by_cases hyk : (y.1 == k) = true
      · rw [if_pos hyk] at e
        exact Or.inl e.symm
      · rw [if_neg hyk] at e
        subst e
        exact Or.inr ⟨hy, fun e => hyk (beq_iff_eq.mpr e)⟩
    · rintro (rfl | ⟨hx, hne⟩)
      · exact ⟨y0, hy0, if_pos hk0⟩
      · exact ⟨x, hx, if_neg fun e => hne (beq_iff_eq.mp e)⟩
  · rw [if_neg hany, List.mem_append, List.mem_singleton]
    constructor
    · rintro (h | h)
      · exact Or.inr ⟨h, fun e => hany (List.any_eq_true.mpr ⟨x, h, beq_iff_eq.mpr e⟩)⟩
      · exact Or.inl h
    · rintro (h | h)
      · exact Or.inr h
      · exact Or.inl h.1

theorem dictSet_keys (d : List (Nat × Job)) (k : Nat) (j : Job) (h : (d.map (·.1)).Nodup) : ((dictSet d k j).map (·.1)).Nodup := by
  unfold dictSet
  by_cases hany : d.any (·.1 == k) = true
  · have : (d.map (fun x => if x.1 == k then (k, j) else x)).map (·.1) = d.map (·.1) := by
      rw [List.map_map]
      refine List.map_congr_left fun x _ => ?_
      show (if (x.1 == k) = true then (k, j) else x).1 = x.1
      by_cases hk : (x.1 == k) = true
      · rw [if_pos hk]; exact (beq_iff_eq.mp hk).symm
      · rw [if_neg hk]
    rw [if_pos hany, this]; exact h
  · rw [if_neg hany, List.map_append, List.nodup_append]
    refine ⟨h, List.pairwise_singleton _ _, fun a ha b hb e => ?_⟩
    obtain ⟨y, hy, hya⟩ := List.mem_map.mp ha
    obtain rfl : b = k := List.mem_singleton.mp hb
    exact hany (List.any_eq_true.mpr ⟨y, hy, beq_iff_eq.mpr (hya.trans e)⟩)

def setAll (d : List (Nat × Job)) (L : List (Nat × Job)) : List (Nat × Job) := L.foldl (fun d x => dictSet d x.1 x.2) d

theorem setAll_spec : ∀ (L : List (Nat × Job)) (d : List (Nat × Job)), (d.map (·.1)).Nodup →
    ((setAll d L).map (·.1)).Nodup ∧ (∀ x ∈ setAll d L, (x ∈ d ∧ x.1 ∉ L.map (·.1)) ∨ x ∈ L) ∧
    (∀ x ∈ d, x.1 ∉ L.map (·.1) → x ∈ setAll d L) ∧ ((L.map (·.1)).Nodup → ∀ x ∈ L, x ∈ setAll d L) := by
  intro L
  induction L with
  | nil => intro d h; exact ⟨h, fun x hx => Or.inl ⟨hx, by simp⟩, fun x hx _ => hx, fun _ x hx => by cases hx⟩
  | cons y ys ih =>
    intro d h
    obtain ⟨i1, i2, i3, i4⟩ := ih (dictSet d y.1 y.2) (dictSet_keys d y.1 y.2 h)
    refine ⟨i1, fun x hx => ?_, fun x hx hn => ?_, fun hnd x hx => ?_⟩
    · rcases i2 x hx with ⟨h1, h2⟩ | h1
      · rcases mem_dictSet.mp h1 with e | ⟨h3, h4⟩
        · exact Or.inr (by rw [e]; simp)
        · exact Or.inl ⟨h3, by simp only [List.map_cons, List.mem_cons, not_or]; exact ⟨h4, h2⟩⟩
      · exact Or.inr (List.mem_cons_of_mem _ h1)
    · simp only [List.map_cons, List.mem_cons, not_or] at hn
      exact i3 x (mem_dictSet.mpr (Or.inr ⟨hx, hn.1⟩)) hn.2
    · simp only [List.map_cons, List.nodup_cons] at hnd
      rcases List.mem_cons.mp hx with rfl | hx
      · exact i3 _ (mem_dictSet.mpr (Or.inl rfl)) hnd.1
      · exact i4 hnd.2 x hx

theorem setAll_append (d : List (Nat × Job)) (a b : List (Nat × Job)) : setAll d (a ++ b) = setAll (setAll d a) b := by
  unfold setAll; rw [List.foldl_append]

/-- the entries `prNoteSuspending` writes: one for every container that is being written out -/
def noteList (w : World) : List (Nat × Job) :=
  (List.range w.pools.length).flatMap (fun k => (w.pools.getD k default).suspending.map (fun c => (c.cid, jobOfCtr w k c)))

theorem prNoteSuspending_eq (w : World) (st : St) : prNoteSuspending w st = { st with susp := setAll st.susp (noteList w) } := by
  unfold prNoteSuspending noteList
  have inner : ∀ (k : Nat) (cs : List Ctr) (s : St),
      cs.foldl (fun st c => { st with susp := dictSet st.susp c.cid (jobOfCtr w k c) }) s = { s with susp := setAll s.susp (cs.map (fun c => (c.cid, jobOfCtr w k c))) } := by
    intro k cs
    induction cs with
    | nil => intro s; rfl
    | cons c cs ih => intro s; simp only [List.foldl_cons, List.map_cons]; rw [ih]; rfl
  generalize List.range w.pools.length = ks
  induction ks generalizing st with
  | nil => rfl
  | cons k ks ih => simp only [List.foldl_cons, List.flatMap_cons]; rw [inner, ih, setAll_append]

theorem mem_noteList {w : World} {x : Nat × Job} (h : x ∈ noteList w) :
    ∃ k c, w.pools[k]? = some (w.pools.getD k default) ∧ c ∈ (w.pools.getD k default).suspending ∧ x = (c.cid, jobOfCtr w k c) := by
  unfold noteList at h
  obtain ⟨k, hk, hx⟩ := List.mem_flatMap.mp h
  obtain ⟨c, hc, e⟩ := List.mem_map.mp hx
  have hlt : k < w.pools.length := List.mem_range.mp hk
  refine ⟨k, c, ?_, hc, e.symm⟩
  rw [List.getD_eq_getElem?_getD, List.getElem?_eq_getElem hlt]; rfl

theorem noteList_mem {w : World} {k : Nat} (hk : k < w.pools.length) {c : Ctr} (hc : c ∈ (w.pools.getD k default).suspending) :
    (c.cid, jobOfCtr w k c) ∈ noteList w :=
  List.mem_flatMap.mpr ⟨k, List.mem_range.mpr hk, List.mem_map.mpr ⟨c, hc, rfl⟩⟩

theorem noteList_keys (w : World) : (noteList w).map (·.1) = cids (w.pools.flatMap (·.suspending)) := by
  unfold noteList
  rw [List.map_flatMap, ← range_getD_flatMap w.pools (fun p => p.suspending), cids, List.map_flatMap]
  simp [List.map_map, Function.comp_def]

theorem jobOfCtr_ops (w : World) (k : Nat) (c : Ctr) (f : Fin w.store c) (hb : ∀ o ∈ c.unfinished, Busy (w.store.stOf o)) :
    (jobOfCtr w k c).ops = c.unfinished :=
  PP.nonCompleted_unfinished w c f.pre (fun o ho hc => by rcases hb o ho with e | e | e <;> rw [hc] at e <;> cases e)

theorem jobOfCtr_retry_pos {w : World} {k : Nat} {c : Ctr} (hpos : 0 < c.cpu ∧ 0 < c.ram) :
    ∀ rs, (jobOfCtr w k c).retry = some rs → 0 < rs.oldCpu ∧ 0 < rs.oldRam := by
  intro rs h
  obtain rfl := Option.some.inj h
  exact hpos

/-- the step of `prRequeueSuspended` for one container of a suspended list -/
def rqStep (st : St) (c : Ctr) : St :=
  match st.susp.find? (·.1 == c.cid) with
  | some (_, job) => ({ st with susp := st.susp.filter (·.1 != c.cid) }).push job job.prio
  | none => st

def allSuspended (w : World) : List Ctr := (List.range w.pools.length).flatMap (fun k => (w.pools.getD k default).suspended)

theorem prRequeueSuspended_eq (w : World) (st : St) : prRequeueSuspended w st = (allSuspended w).foldl rqStep st := by
  unfold prRequeueSuspended allSuspended
  rw [List.foldl_flatMap]
  rfl

theorem allSuspended_eq (w : World) : allSuspended w = w.pools.flatMap (·.suspended) := range_getD_flatMap w.pools (·.suspended)

theorem rqStep_susp (s : St) (c : Ctr) : (rqStep s c).susp = s.susp.filter (·.1 != c.cid) := by
  unfold rqStep
  cases hf : s.susp.find? (·.1 == c.cid) with
  | none => exact (List.filter_eq_self.mpr fun x hx => by simpa using List.find?_eq_none.mp hf x hx).symm
  | some x => exact push_susp _ _ _

theorem requeue_susp (l : List Ctr) (s : St) : (l.foldl rqStep s).susp = s.susp.filter (fun x => !(cids l).contains x.1) := by
  induction l generalizing s with
  | nil => exact (List.filter_eq_self.mpr fun _ _ => rfl).symm
  | cons c l ih =>
    rw [List.foldl_cons, ih, rqStep_susp, List.filter_filter]
    congr 1
    funext x
    by_cases h : x.1 = c.cid <;> simp [h]

theorem mem_requeue_susp {l : List Ctr} {s : St} {x : Nat × Job} : x ∈ (l.foldl rqStep s).susp ↔ x ∈ s.susp ∧ x.1 ∉ cids l := by
  simp [requeue_susp, List.mem_filter]

/-- invariant of the re-queueing fold; `proc`: the containers passed, `d0`: the dictionary at the start, `Q0`: what was queued then -/
structure RqInv (w : World) (d0 : List (Nat × Job)) (Q0 : List Nat) (proc : List Ctr) (s : St) : Prop where
  jobs : JobsOKm w s.jobs
  whole : JobsWhole w s.jobs
  sub : ∀ x ∈ s.susp, x ∈ d0
  orig : ∀ o ∈ s.jobs.flatMap (·.ops), o ∈ Q0 ∨ ∃ c ∈ proc, (∃ j, (c.cid, j) ∈ d0) ∧ o ∈ c.unfinished

theorem rqStep_ok {w : World} {d0 : List (Nat × Job)} {Q0 : List Nat} {proc : List Ctr} {s : St} {c : Ctr}
    (hH : ∀ job, (c.cid, job) ∈ d0 → JobOKm w job ∧ WholeOps w.pipes w.store job.ops ∧ job.ops = c.unfinished ∧ (∀ o ∈ c.unfinished, o ∉ Q0) ∧
      ∀ d ∈ proc, (∃ j, (d.cid, j) ∈ d0) → ∀ o ∈ c.unfinished, o ∉ d.unfinished)
    (I : RqInv w d0 Q0 proc s) : RqInv w d0 Q0 (proc ++ [c]) (rqStep s c) := by
  unfold rqStep
  cases hf : s.susp.find? (·.1 == c.cid) with
  | none => exact ⟨I.jobs, I.whole, I.sub, fun o ho => (I.orig o ho).imp id (exists_mem_append_left [c])⟩
  | some x =>
    obtain ⟨k, job⟩ := x
    have hmem : (k, job) ∈ s.susp := List.mem_of_find?_eq_some hf
    obtain rfl : k = c.cid := by simpa using List.find?_some hf
    obtain ⟨jok, jwh, jops, jq, jdis⟩ := hH job (I.sub _ hmem)
    have hnew : ∀ o ∈ job.ops, o ∉ s.jobs.flatMap (·.ops) := by
      intro o ho hx
      rw [jops] at ho
      rcases I.orig o hx with h | ⟨d, hd, he, ho'⟩
      · exact jq o ho h
      · exact jdis d hd he o ho ho'
    refine ⟨jobsOKm_push _ I.jobs jok hnew, push_forall _ I.whole jwh, fun x hx => ?_, fun o ho => ?_⟩
    · rw [push_susp] at hx
      exact I.sub x (List.mem_filter.mp hx).1
    · rcases List.mem_append.mp ((push_ops_perm _ _ _).mem_iff.mp ho) with h | h
      · exact (I.orig o h).imp id (exists_mem_append_left [c])
      · exact Or.inr ⟨c, List.mem_append_right proc List.mem_cons_self, ⟨job, I.sub _ hmem⟩, jops ▸ h⟩

/-- `W` for whole -/
def GoodW (F : List Nat) (pipes : Array PipeInfo) (s : Store) (c : Ctr) : Prop := PP.Good F s c ∧ WholeOps pipes s c.ops

theorem goodW_mono {F F' : List Nat} {pipes : Array PipeInfo} {s s' : Store} {c : Ctr} (h : GoodW F pipes s c) (hs : Steps s s') (hF : ∀ x ∈ F', x ∈ F) :
    GoodW F' pipes s' c := ⟨PP.good_mono h.1 hs hF, wholeOps_mono h.2 hs⟩

theorem goodW_of_same {F : List Nat} {pipes : Array PipeInfo} {s : Store} {c c' : Ctr} (ho : c'.ops = c.ops) (hk : key c' = key c) (h : GoodW F pipes s c) :
    GoodW F pipes s c' := ⟨PP.good_of_same ho hk h.1, by rw [ho]; exact h.2⟩

theorem goodW_same {F : List Nat} {pipes : Array PipeInfo} {s : Store} {c c' : Ctr} (hs : Same c c') (h : GoodW F pipes s c) : GoodW F pipes s c' :=
  goodW_of_same hs.2.1 (by unfold key; rw [hs.1, hs.2.2.2.1, hs.2.2.2.2.1]) h

theorem GoodW.pos {F : List Nat} {pipes : Array PipeInfo} {s : Store} {c : Ctr} (h : GoodW F pipes s c) : 0 < c.cpu ∧ 0 < c.ram := h.1.2.2.2

theorem GoodW.arrived {F : List Nat} {pipes : Array PipeInfo} {s : Store} {c : Ctr} (h : GoodW F pipes s c) {o : Nat} (ho : o ∈ c.ops) : s.pidOf o ∉ F :=
  (h.1.2.1 o ho).2.2

theorem goodW_kept (cfg : Cfg) (F : List Nat) (pipes : Array PipeInfo) (s : Store) : Kept cfg (GoodW F pipes s) :=
  .of_ident fun h hc => goodW_of_same h.ops h.key hc

/-- everything the closed loop of `priority` with multi-operator containers keeps true from tick to tick.  `cs`: the containers behind the results the
scheduler is about to be handed; `js`: the containers whose write-out ended in the last tick; `F`: the pipelines still to arrive -/
structure PMInv (w : World) (st : St) (cs js : List Ctr) (F : List Nat) : Prop where
  ready : WorldReady w
  wfp : w.WFP
  segs : w.SegsOK
  pid : w.PidOK
  topo : w.Topo
  fins : w.FinS
  cids : w.CidsOK
  multi : w.cfg.multiOp = true
  over : w.cfg.overcommit = false
  q : 0 < w.cfg.q
  jobs : JobsOKm w st.jobs
  whole : JobsWhole w st.jobs
  jobsF : ∀ o ∈ st.jobs.flatMap (·.ops), w.store.pidOf o ∉ F
  fnd : F.Nodup
  fut : ∀ pid ∈ F, (w.pipes.getD pid default).order ≠ [] ∧ ∀ o ∈ (w.pipes.getD pid default).order, w.store.stOf o = pending
  goodA : ∀ p ∈ w.pools, AllC (GoodW F w.pipes w.store) p.active
  goodS : ∀ p ∈ w.pools, AllC (GoodW F w.pipes w.store) p.suspending
  sne : ∀ p ∈ w.pools, ∀ c ∈ p.suspending, c.unfinished ≠ []  -- the scheduler's "suspending container has no incomplete operators" cannot fire
  res : ∀ c ∈ cs, Fin w.store c ∧ c.completed = true ∧ GoodW F w.pipes w.store c
  park : ∀ c ∈ js, Fin w.store c ∧ c.completed = false ∧ Parked w.store c ∧ GoodW F w.pipes w.store c ∧ c.unfinished ≠ [] ∧ ∃ p ∈ w.pools, c ∈ p.suspended  -- a container whose write-out has just ended
  nd : (allUnf cs ++ allUnf js).Nodup
  resq : ∀ o ∈ allUnf cs ++ allUnf js, o ∉ st.jobs.flatMap (·.ops)
  keys : (st.susp.map (·.1)).Nodup
  nold : ∀ p ∈ w.pools, ∀ c ∈ p.suspended, c ∉ js → c.cid ∉ st.susp.map (·.1)  -- `s.suspending` remembers nothing for containers suspended earlier
  -- an entry of `s.suspending` for a container being written out, or just written out, is its unfinished work, with positive retry figures
  ent : ∀ x ∈ st.susp, ∀ c, (c ∈ js ∨ ∃ p ∈ w.pools, c ∈ p.suspending) → c.cid = x.1 →
    x.2.ops = c.unfinished ∧ ∀ rs, x.2.retry = some rs → 0 < rs.oldCpu ∧ 0 < rs.oldRam
  has : ∀ c ∈ js, c.cid ∈ st.susp.map (·.1)  -- so the round's pop from `s.suspending` finds every container whose write-out has just ended

theorem mem_unf_of_result {w : World} {st : St} {cs js : List Ctr} {F : List Nat} (inv : PMInv w st cs js F) {c : Ctr} (hc : c ∈ cs) {o' o : Nat}
    (ho' : o' ∈ c.ops) (ho : o ∈ (w.pipes.getD (w.store.pidOf o') default).order) (hn : w.store.stOf o ≠ completed) : o ∈ c.unfinished := by
  obtain ⟨f, _, hg⟩ := inv.res c hc
  obtain ⟨P, hin, hwh⟩ := hg.2
  rw [inv.pid P o' (hin o' ho')] at ho
  exact mem_unfinished f ((hwh o ho).resolve_right hn) hn

theorem quiet_touched (w : World) (st : St) (cs js : List Ctr) (newP F : List Nat) (inv : PMInv w st cs js (newP ++ F)) :
    ∀ pid ∈ prTouched w (cs.map mkRes) newP, QuietP w (st.jobs.flatMap (·.ops)) pid := by
  intro pid hpid o ho
  rcases mem_prTouched hpid with h | ⟨c, hc, o', ho', rfl⟩
  · -- a pipeline that has just arrived: untouched, and nothing of it is queued
    right
    obtain ⟨_, hpend⟩ := inv.fut pid (List.mem_append_left _ h)
    refine ⟨by rw [hpend o ho]; simp [assignable], fun hin => inv.jobsF o hin ?_⟩
    rw [inv.pid pid o ho]; exact List.mem_append_left _ h
  · by_cases hcomp : w.store.stOf o = completed
    · exact Or.inl hcomp
    · -- what the container that ended has left undone: it failed, and its unfinished operators are FAILED
      have hunf := mem_unf_of_result inv hc ho' ho hcomp
      obtain ⟨f, hcc, _⟩ := inv.res c hc
      have herr : c.err = true := by
        cases he : c.err with
        | true => rfl
        | false => rw [f.done hcc he] at hunf; cases hunf
      exact Or.inr ⟨by rw [(f.dead hcc herr).2 o hunf]; simp [assignable], inv.resq o (List.mem_append_left _ (mem_allUnf hc hunf))⟩

theorem PMInv.enqueued {w : World} {st : St} {cs js : List Ctr} {newP F : List Nat} (inv : PMInv w st cs js (newP ++ F)) :
    EnqInv w (st.jobs.flatMap (·.ops)) st.susp (prTouched w (cs.map mkRes) newP) (prEnqueue w st (cs.map mkRes) newP) := by
  refine prEnqueueM_ok w st _ newP inv.multi inv.wfp inv.segs inv.pid inv.topo inv.jobs inv.whole (List.nodup_append.mp inv.fnd).1 (fun r hr => ?_)
    (quiet_touched w st cs js newP F inv)
  obtain ⟨c, hc, rfl⟩ := List.mem_map.mp hr
  exact (inv.res c hc).2.2.pos

theorem parked_job {w : World} {st : St} {cs js : List Ctr} {F : List Nat} (inv : PMInv w st cs js F) {c : Ctr} (hc : c ∈ js) {x : Nat × Job}
    (hx : x ∈ st.susp) (e : c.cid = x.1) : JobOKm w x.2 ∧ WholeOps w.pipes w.store x.2.ops ∧ x.2.ops = c.unfinished := by
  obtain ⟨f, _, hpk, hg, hne, _⟩ := inv.park c hc
  obtain ⟨eops, eret⟩ := inv.ent x hx c (Or.inl hc) e
  obtain ⟨g1, g2, g3, _⟩ := hg.1
  refine ⟨⟨eops ▸ hne, eops ▸ unfinished_nodup g1, fun o ho => ?_, eops ▸ parentsOK_drop g3 c.curOpIdx f.pre, eret⟩,
    eops ▸ wholeOps_drop hg.2 c.curOpIdx f.pre, eops⟩
  rw [eops] at ho
  have ho' := g2 o (List.mem_of_mem_drop ho)
  exact ⟨ho'.1, by rw [hpk o ho]; simp [assignable], ho'.2.1⟩

theorem parked_not_queued {w : World} {st : St} {cs js : List Ctr} {newP F : List Nat} (inv : PMInv w st cs js (newP ++ F)) {sa : St}
    (E : EnqInv w (st.jobs.flatMap (·.ops)) st.susp (prTouched w (cs.map mkRes) newP) sa) {c : Ctr} (hc : c ∈ js) {o : Nat} (ho : o ∈ c.unfinished) :
    o ∉ sa.jobs.flatMap (·.ops) := by
  intro hin
  obtain ⟨_, _, hpk, hg, _, _⟩ := inv.park c hc
  have hoc : o ∈ c.ops := List.mem_of_mem_drop ho
  rcases (E.orig o hin).imp id mem_prTouched with h | h | ⟨c', hc', o', ho', e'⟩
  · exact inv.resq o (List.mem_append_right _ (mem_allUnf hc ho)) h
  · exact hg.arrived hoc (List.mem_append_left _ h)
  · -- `o` would be of the pipeline of a container `c'` that has just ended, hence in its unfinished suffix
    obtain ⟨P, hinP, _⟩ := hg.2
    have hoP := hinP o hoc
    rw [← inv.pid P o hoP, ← e'] at hoP
    have hunf' := mem_unf_of_result inv hc' ho' hoP (by rw [hpk o ho]; simp)
    exact (List.nodup_append.mp inv.nd).2.2 o (mem_allUnf hc' hunf') o (mem_allUnf hc ho) rfl

structure Dict (w : World) (d : List (Nat × Job)) : Prop where
  keys : (d.map (·.1)).Nodup
  nold : ∀ c ∈ allSuspended w, c.cid ∉ d.map (·.1)
  noted : ∀ x ∈ noteList w, x ∈ d

structure Requeued (w : World) (Q : List Nat) (js : List Ctr) (s : St) : Prop where
  jobs : JobsOKm w s.jobs
  whole : JobsWhole w s.jobs
  dict : Dict w s.susp
  orig : ∀ o ∈ s.jobs.flatMap (·.ops), o ∈ Q ∨ ∃ c ∈ js, o ∈ c.unfinished

theorem note_requeue_ok {w : World} {st : St} {cs js : List Ctr} {newP F : List Nat} (inv : PMInv w st cs js (newP ++ F)) {sa : St}
    (E : EnqInv w (st.jobs.flatMap (·.ops)) st.susp (prTouched w (cs.map mkRes) newP) sa) :
    Requeued w (sa.jobs.flatMap (·.ops)) js (prRequeueSuspended w (prNoteSuspending w sa)) := by
  obtain ⟨cS, cD, _, cDS, _⟩ := cidsOK_facts inv.cids
  rw [prNoteSuspending_eq, prRequeueSuspended_eq]
  obtain ⟨n1, n2, n3, n4⟩ := setAll_spec (noteList w) sa.susp (by rw [E.susp]; exact inv.keys)
  rw [← allSuspended_eq] at cD
  have hnote : ∀ c ∈ allSuspended w, c.cid ∉ (noteList w).map (·.1) := by
    intro c hc
    rw [noteList_keys]
    exact (cDS c.cid (by rw [← allSuspended_eq]; exact List.mem_map_of_mem hc)).1
  have hentry : ∀ c ∈ allSuspended w, ∀ job, (c.cid, job) ∈ setAll sa.susp (noteList w) → c ∈ js ∧ (c.cid, job) ∈ st.susp := by
    intro c hc job hx
    rcases n2 _ hx with ⟨h1, _⟩ | h1
    · rw [E.susp] at h1
      refine ⟨Classical.byContradiction fun hnj => ?_, h1⟩
      rw [allSuspended_eq] at hc
      obtain ⟨p, hp, hcp⟩ := List.mem_flatMap.mp hc
      exact inv.nold p hp c hcp hnj (List.mem_map.mpr ⟨_, h1, rfl⟩)
    · exact absurd (List.mem_map.mpr ⟨_, h1, rfl⟩) (hnote c hc)
  -- `d`: the dictionary after noting; from here on only `n1`–`n4` and `hentry` speak of it
  generalize setAll sa.susp (noteList w) = d at n1 n2 n3 n4 hentry ⊢
  have R := foldl_inv (RqInv w d (sa.jobs.flatMap fun j : Job => j.ops)) (l := allSuspended w) (b := { sa with susp := d })
    ⟨E.jobs, E.whole, fun x hx => hx, fun o ho => Or.inl ho⟩ fun proc c rest s e I => by
      refine rqStep_ok (fun job hx => ?_) I
      obtain ⟨hcj, hxs⟩ := hentry c (by rw [e]; simp) job hx
      obtain ⟨j1, j2, j3⟩ := parked_job inv hcj hxs rfl
      refine ⟨j1, j2, j3, fun o ho => parked_not_queued inv E hcj ho, fun d hd ⟨j, hj⟩ => ?_⟩
      -- a container passed earlier that had a remembered job is another one of `js`
      have hne' : c ≠ d := by
        rintro rfl
        rw [e, cids_append, cids_cons] at cD
        exact (List.nodup_append.mp cD).2.2 _ (List.mem_map_of_mem hd) _ List.mem_cons_self rfl
      exact allUnf_disjoint (List.nodup_append.mp inv.nd).2.1 hcj (hentry d (by rw [e]; exact List.mem_append_left _ hd) j hj).1 hne'
  refine ⟨R.jobs, R.whole, ⟨?_, fun c hc hin => ?_, fun x hx => mem_requeue_susp.mpr ⟨n4 (by rw [noteList_keys]; exact cS) x hx, fun hin => ?_⟩⟩, fun o ho => ?_⟩
  · rw [requeue_susp]
    exact (List.Sublist.map _ List.filter_sublist).nodup n1
  · obtain ⟨y, hy, e⟩ := List.mem_map.mp hin
    exact (mem_requeue_susp.mp hy).2 (e ▸ List.mem_map_of_mem hc)
  · obtain ⟨c, hc, e⟩ := List.mem_map.mp hin
    exact hnote c hc (by rw [e]; exact List.mem_map_of_mem hx)
  · rcases R.orig o ho with h | ⟨c, hc, ⟨j, hj⟩, hoc⟩
    · exact Or.inl h
    · exact Or.inr ⟨c, (hentry c hc j hj).1, hoc⟩

/-! As it asks, the round remembers in `s.suspending` the work of every container it asks to suspend (`reqList`). -/

def reqList (w w3 : World) (sus : List (Nat × Nat)) : List (Nat × Job) :=
  sus.filterMap (fun x => (findCtr (w.pools.getD x.1 default).active x.2).map (fun c => (c.cid, jobOfCtr w3 x.1 c)))

theorem requests_eq (w w3 : World) (sus : List (Nat × Nat)) (s : St) :
    sus.foldl (fun (s : St) (x : Nat × Nat) =>
        match findCtr (w.pools.getD x.1 default).active x.2 with
        | some c => { s with susp := dictSet s.susp c.cid (jobOfCtr w3 x.1 c) }
        | none => s) s = { s with susp := setAll s.susp (reqList w w3 sus) } := by
  induction sus generalizing s with
  | nil => rfl
  | cons x xs ih =>
    simp only [List.foldl_cons]
    unfold reqList
    rw [List.filterMap_cons]
    cases hf : findCtr (w.pools.getD x.1 default).active x.2 with
    | none => simp only [Option.map_none]; rw [ih]; rfl
    | some c => simp only [Option.map_some]; rw [ih]; rfl

theorem findCtr_cid {l : List Ctr} {k : Nat} {c : Ctr} (h : findCtr l k = some c) : c ∈ l ∧ c.cid = k := by
  unfold findCtr at h
  exact ⟨List.mem_of_find?_eq_some h, by simpa using List.find?_some h⟩

theorem mem_reqList {w w3 : World} {sus : List (Nat × Nat)} {x : Nat × Job} (h : x ∈ reqList w w3 sus) :
    ∃ y ∈ sus, ∃ c ∈ (w.pools.getD y.1 default).active, c.cid = y.2 ∧ x = (c.cid, jobOfCtr w3 y.1 c) := by
  obtain ⟨y, hy, e⟩ := List.mem_filterMap.mp h
  obtain ⟨c, hf, rfl⟩ := Option.map_eq_some_iff.mp e
  exact ⟨y, hy, c, (findCtr_cid hf).1, (findCtr_cid hf).2, rfl⟩

theorem reqList_keys_sub (w w3 : World) (sus : List (Nat × Nat)) : ((reqList w w3 sus).map (·.1)).Sublist (sus.map (·.2)) := by
  induction sus with
  | nil => simp [reqList]
  | cons x xs ih =>
    unfold reqList at ih ⊢
    rw [List.filterMap_cons]
    cases hf : findCtr (w.pools.getD x.1 default).active x.2 with
    | none => simp only [Option.map_none, List.map_cons]; exact ih.trans (List.sublist_cons_self _ _)
    | some c =>
      simp only [Option.map_some, List.map_cons]
      rw [(findCtr_cid hf).2]
      exact List.Sublist.cons_cons _ ih

theorem cid_mem_active {l : List Pool} {k : Nat} {c : Ctr} (h : c ∈ (l.getD k default).active) : c.cid ∈ cids (l.flatMap (·.active)) :=
  List.mem_map_of_mem (List.mem_flatMap.mpr ⟨_, getD_mem (lt_of_mem_active h), h⟩)

theorem active_cid_pool {pools : List Pool} {k1 k2 : Nat} {c1 c2 : Ctr} (hnd : (cids (pools.flatMap (·.active))).Nodup)
    (h1 : c1 ∈ (pools.getD k1 default).active) (h2 : c2 ∈ (pools.getD k2 default).active) (e : c1.cid = c2.cid) : k1 = k2 := by
  induction pools generalizing k1 k2 with
  | nil => exact absurd (lt_of_mem_active h1) (Nat.not_lt_zero _)
  | cons p ps ih =>
    simp only [List.flatMap_cons, cids_append] at hnd
    obtain ⟨_, hps, hdis⟩ := List.nodup_append.mp hnd
    cases k1 <;> cases k2 <;> simp only [List.getD_cons_zero, List.getD_cons_succ] at h1 h2
    · rfl
    · exact absurd e (hdis c1.cid (List.mem_map_of_mem h1) c2.cid (cid_mem_active h2))
    · exact absurd e.symm (hdis c2.cid (List.mem_map_of_mem h2) c1.cid (cid_mem_active h1))
    · rw [ih hps h1 h2]

theorem active_nodup {w : World} (h : w.CidsOK) {p : Pool} (hp : p ∈ w.pools) : (cids p.active).Nodup :=
  (List.Sublist.map _ (List.sublist_flatten_of_mem (List.mem_map_of_mem hp))).nodup h.activeNodup

theorem active_nodup_getD {w : World} (h : w.CidsOK) (k : Nat) : (cids (w.pools.getD k default).active).Nodup := by
  by_cases hk : k < w.pools.length
  · exact active_nodup h (getD_mem hk)
  · rw [List.getD_eq_getElem?_getD, List.getElem?_eq_none (by omega)]
    exact List.nodup_nil

theorem sus_snd_nodup (pools : List Pool) (sus : List (Nat × Nat)) (hnd : sus.Nodup) (hca : (cids (pools.flatMap (·.active))).Nodup)
    (hok : ∀ x ∈ sus, ∃ c ∈ (pools.getD x.1 default).active, c.cid = x.2) : (sus.map (·.2)).Nodup := by
  refine List.pairwise_map.mpr (hnd.imp_of_mem fun {x y} hx hy hne e => ?_)
  obtain ⟨c1, h1, e1⟩ := hok x hx
  obtain ⟨c2, h2, e2⟩ := hok y hy
  exact hne (Prod.ext (active_cid_pool hca h1 h2 (by rw [e1, e2, e])) e)

theorem map_active_getD (pools : List Pool) (i : Nat) : (pools.map (·.active)).getD i [] = (pools.getD i default).active := by
  rw [List.getD_eq_getElem?_getD, List.getD_eq_getElem?_getD, List.getElem?_map]
  cases pools[i]? <;> rfl

/-- suspension requests that `verify_valid_suspend` accepts -/
structure SusOK (w : World) (sus : List (Nat × Nat)) : Prop where
  nd : (sus.map (·.2)).Nodup
  ok : ∀ x ∈ sus, x.1 < w.pools.length ∧ ∃ c ∈ (w.pools.getD x.1 default).active, c.cid = x.2 ∧ c.canSuspend = true

theorem susOK_round {w : World} (hc : w.CidsOK) (b : Bool) (n : Nat) : SusOK w (if b then [] else prSuspend (w.pools.map (·.active)) n) := by
  split
  · exact ⟨List.nodup_nil, fun _ h => nomatch h⟩
  · obtain ⟨hp, _⟩ := Preempt.prSuspend_spec (w.pools.map (·.active)) n
    have hok : ∀ x ∈ prSuspend (w.pools.map (·.active)) n, x.1 < w.pools.length ∧ ∃ c ∈ (w.pools.getD x.1 default).active, c.cid = x.2 ∧ c.canSuspend = true := by
      intro x hx
      obtain ⟨c, hc', h1, _, h3⟩ := hp x hx
      rw [map_active_getD] at hc'
      exact ⟨lt_of_mem_active hc', c, hc', h1, h3⟩
    refine ⟨sus_snd_nodup w.pools _ (Preempt.prSuspend_nodup _ _ fun i => by rw [map_active_getD]; exact active_nodup_getD hc i) hc.activeNodup
      fun x hx => ?_, hok⟩
    obtain ⟨_, c, hc', h1, _⟩ := hok x hx
    exact ⟨c, hc', h1⟩

theorem requests_ok {w : World} (hc : w.CidsOK) {d : List (Nat × Job)} (D : Dict w d) {sus : List (Nat × Nat)} (S : SusOK w sus) (w3 : World) :
    Dict w (setAll d (reqList w w3 sus)) ∧
    ∀ y ∈ sus, ∀ c ∈ (w.pools.getD y.1 default).active, c.cid = y.2 → (c.cid, jobOfCtr w3 y.1 c) ∈ setAll d (reqList w w3 sus) := by
  obtain ⟨_, _, _, cDS, cSA⟩ := cidsOK_facts hc
  obtain ⟨q1, q2, q3, q4⟩ := setAll_spec (reqList w w3 sus) d D.keys
  have hreqA : ∀ k ∈ (reqList w w3 sus).map (·.1), k ∈ cids (w.pools.flatMap (·.active)) := by
    intro k hk
    obtain ⟨x, hx, rfl⟩ := List.mem_map.mp hk
    obtain ⟨y, hy, c, hc', _, rfl⟩ := mem_reqList hx
    exact cid_mem_active hc'
  refine ⟨⟨q1, fun c hc' hin => ?_, fun x hx => ?_⟩, fun y hy c hc' hk => ?_⟩
  · obtain ⟨x, hx, e⟩ := List.mem_map.mp hin
    rcases q2 x hx with ⟨h1, _⟩ | h1
    · exact D.nold c hc' (by rw [← e]; exact List.mem_map_of_mem h1)
    · have hD : c.cid ∈ cids (w.pools.flatMap (·.suspended)) := by rw [← allSuspended_eq]; exact List.mem_map_of_mem hc'
      exact (cDS _ hD).2 (e ▸ hreqA x.1 (List.mem_map_of_mem h1))
  · refine q3 x (D.noted x hx) (fun hin => cSA _ ?_ (hreqA x.1 hin))
    rw [← noteList_keys]; exact List.mem_map_of_mem hx
  · refine q4 ((reqList_keys_sub w w3 sus).nodup S.nd) _ (List.mem_filterMap.mpr ⟨y, hy, ?_⟩)
    rw [← hk, C08.findCtr_of_mem_nodup hc' (active_nodup_getD hc y.1)]
    rfl

def JobW (w : World) (F : List Nat) (j : Job) : Prop := JobOKm w j ∧ WholeOps w.pipes w.store j.ops ∧ ∀ o ∈ j.ops, w.store.pidOf o ∉ F

/-- what a round leaves (`w3`, `st2`) and decides (`dec`) -/
structure RoundM (w : World) (F : List Nat) (w3 : World) (st2 : St) (dec : Decision) : Prop where
  built : Built w dec.asgs w3
  jobs : JobsOKm w3 st2.jobs
  left : ∀ j ∈ st2.jobs, JobW w F j
  asg : ∀ a ∈ dec.asgs, a.pool < w.pools.length ∧ ∃ j, JobW w F j ∧ a.ops = j.ops
  fits : ∀ k, k < w.pools.length → verifyAssignments w.cfg (w.pools.getD k default) (dec.asgs.filter (·.pool == k)) = .ok ()
  sus : SusOK w dec.sus
  dict : Dict w st2.susp
  req : ∀ y ∈ dec.sus, ∀ c ∈ (w.pools.getD y.1 default).active, c.cid = y.2 → (c.cid, jobOfCtr w3 y.1 c) ∈ st2.susp

theorem prRound_main {w : World} {st st0 : St} {res : List Res} {newP F : List Nat}
    (hst0 : prRequeueSuspended w (prNoteSuspending w (prEnqueue w st res newP)) = st0) (hq : 0 < w.cfg.q) (hc : w.CidsOK)
    (hnn : ∀ p ∈ w.pools, 0 ≤ p.availC ∧ 0 ≤ p.availR) (hj0 : JobsOKm w st0.jobs) (hJ : ∀ j ∈ st0.jobs, JobW w F j) (D : Dict w st0.susp) :
    ∃ w3 st2 dec, prRound w st res newP = .ok (w3, st2, dec) ∧ RoundM w F w3 st2 dec := by
  have hsn := C08.nonNegS_snaps hnn
  have su : Suits prPick (prSize w.cfg.q) C08.NonNegS JobOKm := prSuits hq fun _ _ h => h.retry
  obtain ⟨w1, sn1, m1, new1, w2, sn2, m2, new2, w3, sn3, m3, new3, t1, t2, t3, hnd', hok'⟩ :=
    gQueue_round su su su jobOKm_pred (l1 := st0.qry) (l2 := st0.inter) (l3 := st0.batch) hj0.nd hj0.ok hsn
  have r := (t1.qrun.append t2.qrun).append t3.qrun
  obtain ⟨hn3, bud⟩ := r.budget C08.prPick_open (C08.prSize_fits _) hsn
  have S := susOK_round hc (st0.qry.drop m1).isEmpty (st0.qry.drop m1).length
  generalize hsus : (if (st0.qry.drop m1).isEmpty then [] else prSuspend (w.pools.map (·.active)) (st0.qry.drop m1).length) = sus at S
  obtain ⟨D', hreq⟩ := requests_ok hc D S w3
  refine ⟨w3, { qry := st0.qry.drop m1, inter := st0.inter.drop m2, batch := st0.batch.drop m3, susp := setAll st0.susp (reqList w w3 sus) },
    { sus := sus, asgs := new1 ++ new2 ++ new3 }, ?_, (t1.built.append t2.built).append t3.built, ⟨hnd', hok'⟩, fun j hj => hJ j ?_, fun a ha => ?_,
    C08.accepted_of_budget w sn3 _ bud hn3, S, D', hreq⟩
  · unfold prRound
    simp only [hst0, prQueue_eq, t1.run, t2.run, t3.run]
    rw [hsus]
    exact congrArg (fun z => Except.ok (w3, z, ({ sus := sus, asgs := new1 ++ new2 ++ new3 } : Decision))) (requests_eq w w3 sus _)
  · simp only [St.jobs, List.mem_append] at hj ⊢
    exact hj.imp (Or.imp List.mem_of_mem_drop List.mem_of_mem_drop) List.mem_of_mem_drop
  · obtain ⟨j, hj, e, _⟩ := r.job ha
    refine ⟨?_, j, hJ j ?_, e⟩
    · have := C08.prRun_pool r a ha
      rwa [snaps, List.length_map] at this
    · simp only [St.jobs, List.mem_append] at hj ⊢
      exact hj.imp (Or.imp List.mem_of_mem_take List.mem_of_mem_take) List.mem_of_mem_take

theorem prRoundM_run {w : World} {st : St} {cs js : List Ctr} {newP F : List Nat} (inv : PMInv w st cs js (newP ++ F)) :
    ∃ w3 st2 dec, prRound w st (cs.map mkRes) newP = .ok (w3, st2, dec) ∧ RoundM w F w3 st2 dec := by
  have E := inv.enqueued
  have Q := note_requeue_ok inv E
  refine prRound_main rfl inv.q inv.cids (free_nonneg inv.ready inv.over) Q.jobs (fun j hj => ⟨Q.jobs.ok j hj, Q.whole j hj, fun o hoj hin => ?_⟩) Q.dict
  rcases Q.orig o (List.mem_flatMap.mpr ⟨j, hj, hoj⟩) with h | ⟨c, hc, hoc⟩
  · rcases (E.orig o h).imp id mem_prTouched with h' | h' | ⟨c, hc, o', ho', e⟩
    · exact inv.jobsF o h' (List.mem_append_right _ hin)
    · exact (List.nodup_append.mp inv.fnd).2.2 _ h' _ hin rfl
    · exact (inv.res c hc).2.2.arrived ho' (List.mem_append_right _ (e ▸ hin))
  · obtain ⟨_, _, _, hg, _, _⟩ := inv.park c hc
    exact hg.arrived (List.mem_of_mem_drop hoc) (List.mem_append_right _ hin)

theorem goodW_mkCtr {w w1 : World} {F : List Nat} {a : Asg} {jb : Job} (hs : Steps w.store w1.store) (hJ : JobW w F jb) (eo : a.ops = jb.ops)
    (hpar : ParentsOK w1.store a.ops) (hpos : 0 < a.cpu ∧ 0 < a.ram) (s : Store) (n : Nat) : GoodW F w.pipes w1.store (mkCtr s n a) :=
  ⟨good_mkCtr hs hJ.1 eo (fun o ho => hJ.2.2 o (eo ▸ ho)) hpar hpos s n, wholeOps_mono (show WholeOps w.pipes w.store a.ops from eo ▸ hJ.2.1) hs⟩

theorem gates_pass {w w1 : World} {st st1 : St} {cs js : List Ctr} {F' F : List Nat} {dec : Decision} (inv : PMInv w st cs js F') (R : RoundM w F w1 st1 dec) :
    ∀ k p, w1.pools[k]? = some p →
      ((cmdsFor k dec.sus dec.asgs).susp.isEmpty = true ∨ verifySuspends p (cmdsFor k dec.sus dec.asgs).susp = .ok ()) ∧
      ((cmdsFor k dec.sus dec.asgs).asgs.isEmpty = true ∨ verifyAssignments w1.cfg p (cmdsFor k dec.sus dec.asgs).asgs = .ok ()) := by
  intro k p hk
  obtain ⟨e1, e2, _, _⟩ := built_frame R.built
  rw [e1] at hk
  have hklt : k < w.pools.length := (List.getElem?_eq_some_iff.mp hk).1
  obtain rfl : w.pools.getD k default = p := by rw [List.getD_eq_getElem?_getD, hk]; rfl
  refine ⟨Or.inr (C08.verifySuspends_ok _ (active_nodup inv.cids (getD_mem hklt)) _ fun cid hcid => ?_), Or.inr (by rw [e2]; exact R.fits k hklt)⟩
  obtain ⟨x, hx, rfl⟩ := List.mem_map.mp (show cid ∈ (dec.sus.filter (·.1 == k)).map (·.2) from hcid)
  obtain ⟨hx1, hx2⟩ := List.mem_filter.mp hx
  obtain rfl : x.1 = k := by simpa using hx2
  obtain ⟨_, c, hc, h1, h3⟩ := R.sus.ok x hx1
  exact ⟨c, hc, h1, h3⟩

/-- `h`: `c` is being written out after the tick or its write-out has just ended, so it was being written out before the tick or has just been asked to
(as `c0`, the same but for the write-out count).  `pipes` is a variable so that the lemma applies as it stands to the pipelines of the world after the
tick, which are `w`'s by `hp`. -/
theorem written_out {w w1 : World} {st st1 : St} {cs js : List Ctr} {newP F : List Nat} {dec : Decision} (inv : PMInv w st cs js (newP ++ F))
    (R : RoundM w F w1 st1 dec) {s2 : Store} (st2 : Steps w1.store s2) {pipes : Array PipeInfo} (hp : pipes = w.pipes) {c : Ctr}
    (h : ∃ c0, (∃ q ∈ w1.pools, c0 ∈ q.suspending ∨ (c0 ∈ q.active ∧ c0.cid ∈ dec.sus.map (·.2))) ∧ Same c0 c) :
    GoodW F pipes s2 c ∧ c.unfinished ≠ [] ∧
      ∃ x ∈ st1.susp, x.1 = c.cid ∧ x.2.ops = c.unfinished ∧ ∀ rs, x.2.retry = some rs → 0 < rs.oldCpu ∧ 0 < rs.oldRam := by
  obtain ⟨c0, ⟨q, hq, h⟩, hs⟩ := h
  subst hp
  obtain ⟨e1, _, _, est⟩ := built_frame R.built
  rw [e1] at hq
  obtain ⟨k, hk, rfl⟩ := pool_index hq
  rw [hs.unfinished, hs.1]
  have hgood : GoodW (newP ++ F) w.pipes w.store c0 → GoodW F w.pipes s2 c :=
    fun g => goodW_mono (goodW_same hs g) (est.trans st2) fun x hx => List.mem_append_right _ hx
  rcases h with h | ⟨h, hs'⟩
  · have g := inv.goodS _ hq c0 h
    exact ⟨hgood g, inv.sne _ hq c0 h, _, R.dict.noted _ (noteList_mem hk h), rfl,
      jobOfCtr_ops w k c0 (inv.fins _ hq c0 (List.mem_append_right _ h)) (owned_busy inv.ready hq (List.mem_append_right _ h)),
      jobOfCtr_retry_pos g.pos⟩
  · have g := inv.goodA _ hq c0 h
    obtain ⟨y, hy, ey⟩ := List.mem_map.mp hs'
    obtain ⟨_, c', hc', h1, _⟩ := R.sus.ok y hy
    obtain rfl : k = y.1 := active_cid_pool inv.cids.activeNodup h hc' (by rw [h1, ey])
    have hin := List.mem_append_left (w.pools.getD y.1 default).suspending h
    have hbusy := owned_busy inv.ready hq hin
    -- its operators were busy, so none of them was handed out by the round
    have hsame : ∀ o ∈ c0.unfinished, w1.store.stOf o = w.store.stOf o :=
      fun o ho => R.built.others o fun hin' => not_busy_of_assignable (R.built.assigned o hin').1 (hbusy o ho)
    exact ⟨hgood g, active_unf_ne inv.ready hq h, _, R.req y hy c0 h ey.symm, rfl,
      jobOfCtr_ops w1 y.1 c0 (fin_frame (inv.fins _ hq c0 hin) est hsame) (fun o ho => by rw [hsame o ho]; exact hbusy o ho),
      jobOfCtr_retry_pos g.pos⟩

/-- one scheduling round of `priority` (multi-operator containers, pre-emption on) plus one executor tick never raise, and `PMInv` holds again -/
theorem pm_tick_never_raises (w : World) (st : St) (cs js : List Ctr) (newP F : List Nat) (inv : PMInv w st cs js (newP ++ F)) :
    ∃ w1 st1 dec w2 cs2 js2, prRound w st (cs.map mkRes) newP = .ok (w1, st1, dec) ∧ w1.execTick dec.sus dec.asgs = .ok (w2, cs2.map mkRes) ∧
      PMInv w2 st1 cs2 js2 F := by
  obtain ⟨w1, st1, dec, hrd, R⟩ := prRoundM_run inv
  have hb := R.built
  obtain ⟨e1, e2, e3, est⟩ := built_frame hb
  obtain ⟨hseg0, hpar, hcnt⟩ := batch_ok hb inv.multi fun a ha => let ⟨_, j, hJ, eo⟩ := R.asg a ha; ⟨j, hJ.1, eo⟩
  have hsusF : ∀ i, ((dec.sus.filter (·.1 == i)).map (·.2)).Nodup := fun i => (List.Sublist.map _ List.filter_sublist).nodup R.sus.nd
  obtain ⟨w2, res2, hex, r2, p2, c2, st2⟩ := execTick_succeeds_of_gates_susp w w1 dec.asgs dec.sus inv.ready hb hseg0 hpar hsusF
    (by intro a ha; rw [e1]; exact (R.asg a ha).1) (by intro x hx; rw [e1]; exact (R.sus.ok x hx).1) (gates_pass inv R) hcnt
  obtain ⟨cs2, js2, T⟩ := execTick_finS inv.ready hb hseg0 hpar hsusF inv.fins hex
  obtain rfl := T.res
  have hpipes : w2.pipes = w.pipes := p2.trans hb.pipes
  have hst := est.trans st2
  have hcfg : w2.cfg = w.cfg := c2.trans e2
  -- every container of the tick is good
  obtain ⟨hp2, hr2⟩ := execTick_kept (goodW_kept w1.cfg F w.pipes w1.store)
    (fun a ha s n => by
      obtain ⟨_, jb, hJ, eo⟩ := R.asg a ha
      exact goodW_mkCtr est hJ eo (hpar a ha) (hb.pos a ha).2 s n)
    (fun p hp c hc => goodW_mono (inv.goodA p (e1 ▸ hp) c hc) est fun x hx => List.mem_append_right _ hx) hex
  have hkeep : ∀ o, w1.store.stOf o ∈ assignable → w2.store.stOf o = w1.store.stOf o :=
    fun o => execTick_keeps_assignable inv.ready hb hseg0 hpar hex
  have hout := fun c => written_out inv R st2 hpipes (c := c)
  have houtS := fun p hp c hc => hout c (T.wrote p hp c hc)
  have houtJ := fun c hc => hout c (T.parked c hc).2.2.2.1
  refine ⟨w1, st1, dec, w2, cs2, js2, hrd, hex, ?_⟩
  exact {
    ready := r2
    wfp := inv.wfp.steps hpipes hst
    segs := inv.segs.steps hpipes hst
    pid := inv.pid.steps hpipes hst
    topo := inv.topo.steps hpipes hst
    fins := T.fin
    cids := by
      refine execTick_cids (fun p hp => ?_) (by unfold World.CidsOK; rw [e1, e3]; exact inv.cids) hex
      rw [e2, e3]; exact (inv.ready.pools p (e1 ▸ hp)).1
    multi := hcfg ▸ inv.multi
    over := hcfg ▸ inv.over
    q := hcfg ▸ inv.q
    -- the queued operators are PENDING or FAILED, which a tick never moves
    jobs := ⟨R.jobs.nd, fun j hj => jobOKm_keep st2 (fun x hx => hkeep x ((R.jobs.ok j hj).ok x hx).2.1) (R.jobs.ok j hj)⟩
    whole := fun j hj => hpipes ▸ wholeOps_mono (R.left j hj).2.1 hst
    jobsF := by
      intro o ho
      obtain ⟨j, hj, hoj⟩ := List.mem_flatMap.mp ho
      rw [hst.pidOf]
      exact (R.left j hj).2.2 o hoj
    fnd := (List.nodup_append.mp inv.fnd).2.1
    fut := by
      intro pid hpidF
      rw [hpipes]
      obtain ⟨hne, hpend⟩ := inv.fut pid (List.mem_append_right _ hpidF)
      refine ⟨hne, untouched_kept hb hkeep (fun a ha o hoa ho => ?_) hpend⟩
      obtain ⟨_, j, hJ, eo⟩ := R.asg a ha
      exact hJ.2.2 o (eo ▸ hoa) (by rw [inv.pid pid o ho]; exact hpidF)
    goodA := fun p hp c hc => hpipes ▸ goodW_mono (hp2 p hp c hc) st2 (fun x hx => hx)
    goodS := fun p hp c hc => (houtS p hp c hc).1
    sne := fun p hp c hc => (houtS p hp c hc).2.1
    res := by
      intro c hc
      obtain ⟨f, hcc⟩ := T.ended c hc
      obtain ⟨c', hg', e'⟩ := hr2 (mkRes c) (List.mem_map_of_mem hc)
      obtain ⟨eo, ek⟩ := PP.mkRes_same e'
      exact ⟨f, hcc, hpipes ▸ goodW_mono (goodW_of_same eo ek hg') st2 (fun x hx => hx)⟩
    park := by
      intro c hc
      obtain ⟨f, hcc, hpk, _, hsd⟩ := T.parked c hc
      obtain ⟨hg, hne, _⟩ := houtJ c hc
      exact ⟨f, hcc, hpk, hg, hne, hsd⟩
    nd := T.nd
    -- operators of the new results were busy when the tick began; the queued ones were not
    resq := by
      intro o ho hin
      obtain ⟨j, hj, hoj⟩ := List.mem_flatMap.mp hin
      exact not_busy_of_assignable ((R.jobs.ok j hj).ok o hoj).2.1 (T.busy o ho)
    keys := R.dict.keys
    nold := by
      intro p hp c hc hnj
      rcases T.old p hp c hc with ⟨q, hq, hcq⟩ | h
      · apply R.dict.nold c
        rw [allSuspended_eq]
        exact List.mem_flatMap.mpr ⟨q, e1 ▸ hq, hcq⟩
      · exact absurd h hnj
    ent := by
      intro x hx c hc hcx
      obtain ⟨_, _, x', hx', k1, k2⟩ := hc.elim (houtJ c) (fun h => h.elim fun p hp => houtS p hp.1 c hp.2)
      obtain rfl : x = x' := eq_of_nodup_map R.dict.keys hx hx' (by rw [k1, hcx])
      exact k2
    has := by
      intro c hc
      obtain ⟨_, _, x', hx', k1, _⟩ := houtJ c hc
      exact List.mem_map.mpr ⟨x', hx', k1⟩ }

/-- the priority scheduler with multi-operator containers and pre-emption drives any run to its last tick without raising, for every sequence of
arrival batches in which no pipeline arrives twice and every arriving pipeline is untouched (`PMInv … arrivals.flatten`) -/
theorem run_never_raises : ∀ (arrivals : List (List Nat)) (w : World) (st : St) (cs js : List Ctr), PMInv w st cs js arrivals.flatten →
    ∃ w' st' cs' js', Prio.loop w st (cs.map mkRes) arrivals = .ok (w', st', cs'.map mkRes) ∧ PMInv w' st' cs' js' [] := by
  intro arrivals
  induction arrivals with
  | nil => intro w st cs js inv; exact ⟨w, st, cs, js, rfl, by simpa using inv⟩
  | cons newP rest ih =>
    intro w st cs js inv
    simp only [List.flatten_cons] at inv
    obtain ⟨w1, st1, dec, w2, cs2, js2, h1, h2, inv2⟩ := pm_tick_never_raises w st cs js newP rest.flatten inv
    obtain ⟨w', st', cs', js', ho, inv'⟩ := ih w2 st1 cs2 js2 inv2
    exact ⟨w', st', cs', js', by unfold Prio.loop; rw [h1]; simp only; rw [h2]; exact ho, inv'⟩

end Eudoxia.PM
