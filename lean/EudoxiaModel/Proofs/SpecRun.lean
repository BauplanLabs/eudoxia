import EudoxiaModel.Proofs.OpIndex
/-! The summary record of the specification run (`specRun`: memory per tick, end tick, verdict, completed operators) in terms of
    the position-derived demand list of the container the pool creates — so that `run_follows_demands` turns it into statements
    about what `Container.tick` does, tick after tick. -/
namespace Eudoxia

theorem take_takeWhile_length {α : Type} (p : α → Bool) (l : List α) : l.take (l.takeWhile p).length = l.takeWhile p :=
  (List.prefix_iff_eq_take.mp (List.takeWhile_prefix p)).symm

theorem takeWhile_stop {α : Type} (p : α → Bool) (dflt : α) : ∀ (l : List α), (l.takeWhile p).length < l.length →
    p (l.getD (l.takeWhile p).length dflt) = false
  | [], h => by simp at h
  | a :: l, h => by
    by_cases ha : p a = true
    · simp only [List.takeWhile_cons, ha, ↓reduceIte, List.length_cons] at h ⊢
      rw [List.getD_cons_succ]
      exact takeWhile_stop p dflt l (by omega)
    · simp only [List.takeWhile_cons, ha, Bool.false_eq_true, ↓reduceIte, List.length_nil, List.getD_cons_zero]

theorem relabel_getD_fst (L : Nat) (D : List (Nat × Nat)) (i : Nat) (hi : i < D.length) :
    ((D.map (fun x => (L - 1 - x.1, x.2))).getD i (0, 0)).1 = L - 1 - (D.getD i (0, 0)).1 := by
  rw [getD_of_lt _ _ hi, getD_of_lt _ _ (by rw [List.length_map]; exact hi), List.getElem_map]

theorem specRunWith_fields (cfg : Cfg) (ram : Nat) (ops : List (List Seg)) (ticks : List (List (Nat × Nat))) :
    let d := ctrDemands cfg ops ticks
    let pre := d.takeWhile (fun x => decide (x.2 ≤ ram))
    let S := specRunWith cfg ram ops ticks
    (pre.length = d.length →
      S.mem = (pre.map (·.2)).dropLast ∧ S.endTick = d.length ∧ S.ok = true ∧ S.completedOps = ops.length) ∧
    (pre.length ≠ d.length →
      S.mem = pre.map (·.2) ∧ S.endTick = pre.length + 1 ∧ S.ok = false ∧ S.completedOps = (d.getD pre.length (0, 0)).1) := by
  -- `specRunWith` branches on exactly this test and returns a record literal in either branch
  constructor <;> intro h <;> simp [specRunWith, h]

/-- the record of the specification run, read off a demand list `D` labelled the container's way ("operators that follow"); `k` is the
number of demands before the first that does not fit -/
theorem specRun_of_demands (cfg : Cfg) (cpu ram : Nat) (ops : List (List Seg)) (D : List (Nat × Nat))
    (hD : D.map (fun x => (ops.length - 1 - x.1, x.2)) = ctrDemands cfg ops (specTicks cfg cpu ops)) :
    let S := specRun cfg cpu ram ops
    ∃ k, k ≤ D.length ∧ (∀ x ∈ D.take k, x.2 ≤ ram) ∧ (k < D.length → ram < (D.getD k (0, 0)).2) ∧
      S.mem = (D.take (S.endTick - 1)).map (·.2) ∧
      ((k = D.length ∧ S.ok = true ∧ S.endTick = D.length ∧ S.completedOps = ops.length) ∨
       (k < D.length ∧ S.ok = false ∧ S.endTick = k + 1 ∧ S.completedOps = ops.length - 1 - (D.getD k (0, 0)).1)) := by
  intro S
  let p : Nat × Nat → Bool := fun x => decide (x.2 ≤ ram)
  have hkle : (D.takeWhile p).length ≤ D.length := (List.takeWhile_sublist p).length_le
  have hpre : (ctrDemands cfg ops (specTicks cfg cpu ops)).takeWhile p = (D.takeWhile p).map (fun x => (ops.length - 1 - x.1, x.2)) := by
    rw [← hD, List.takeWhile_map]
    rfl
  have hsnd : ((D.takeWhile p).map (fun x => (ops.length - 1 - x.1, x.2))).map (·.2) = (D.take (D.takeWhile p).length).map (·.2) := by
    rw [take_takeWhile_length, List.map_map]
    rfl
  refine ⟨(D.takeWhile p).length, hkle, ?_, ?_, ?_⟩
  · intro x hx
    rw [take_takeWhile_length] at hx
    exact of_decide_eq_true (List.all_eq_true.mp List.all_takeWhile x hx)
  · intro hlt
    simpa [p] using takeWhile_stop p (0, 0) D hlt
  · have hS : S = specRunWith cfg ram ops (specTicks cfg cpu ops) := rfl
    have hlen : (ctrDemands cfg ops (specTicks cfg cpu ops)).length = D.length := by rw [← hD, List.length_map]
    have hklen : ((ctrDemands cfg ops (specTicks cfg cpu ops)).takeWhile p).length = (D.takeWhile p).length := by
      rw [hpre, List.length_map]
    rw [hS]
    by_cases hall : (D.takeWhile p).length = D.length
    · obtain ⟨m1, m2, m3, m4⟩ := (specRunWith_fields cfg ram ops (specTicks cfg cpu ops)).1 (by rw [hklen, hlen, hall])
      refine ⟨?_, .inl ⟨hall, m3, m2.trans hlen, m4⟩⟩
      rw [m1, m2, hlen, hpre, hsnd, hall, List.take_length, List.dropLast_eq_take, List.length_map, List.map_take]
    · obtain ⟨m1, m2, m3, m4⟩ := (specRunWith_fields cfg ram ops (specTicks cfg cpu ops)).2 (by rw [hklen, hlen]; exact hall)
      refine ⟨?_, .inr ⟨by omega, m3, m2.trans (by rw [hklen]), ?_⟩⟩
      · rw [m1, m2, hpre, hsnd, List.length_map, Nat.add_sub_cancel]
      · rw [m4, hklen, ← hD]
        exact relabel_getD_fst _ _ _ (by omega)

end Eudoxia
