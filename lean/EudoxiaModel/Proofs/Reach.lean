import EudoxiaModel.Proofs.ExecSteps
/-! Worlds reachable under *arbitrary* command sequences: any `Assignment(...)` construction (accepted or
    refused, keeping the partial effect of a refused one) and any executor tick with any suspension and
    assignment lists (continuing after a pre-tick error, whose well-defined state the error carries). -/
namespace Eudoxia
open OpState

inductive Reach : World → World → Prop
  | refl (w) : Reach w w
  | assignOk {w w1 w2 : World} (a : Asg) : Reach w w1 → w1.mkAssignment a = .ok w2 → Reach w w2
  | assignErr {w w1 w2 : World} (a : Asg) (e : Err) : Reach w w1 → w1.mkAssignment a = .error (e, w2) → Reach w w2
  | tickOk {w w1 w2 : World} (sus : List (Nat × Nat)) (asgs : List Asg) (res : List Res) :
      Reach w w1 → w1.execTick sus asgs = .ok (w2, res) → Reach w w2
  | tickErr {w w1 w2 : World} (sus : List (Nat × Nat)) (asgs : List Asg) (e : Err) :
      Reach w w1 → w1.execTick sus asgs = .error (e, some w2) → Reach w w2

theorem Reach.steps {w w' : World} (h : Reach w w') : Steps w.store w'.store := by
  induction h with
  | refl => exact .refl _
  | assignOk a _ h2 ih => exact ih.trans (mkAssignment_steps_ok h2)
  | assignErr a e _ h2 ih => exact ih.trans (mkAssignment_steps_err h2)
  | tickOk sus asgs res _ h2 ih => exact ih.trans (execTick_steps_ok h2)
  | tickErr sus asgs e _ h2 ih => exact ih.trans (execTick_steps_err h2)

theorem Reach.trans {a b c : World} (h1 : Reach a b) (h2 : Reach b c) : Reach a c := by
  induction h2 with
  | refl => exact h1
  | assignOk x _ h ih => exact .assignOk x ih h
  | assignErr x e _ h ih => exact .assignErr x e ih h
  | tickOk s x r _ h ih => exact .tickOk s x r ih h
  | tickErr s x e _ h ih => exact .tickErr s x e ih h

theorem mkAssignment_pools_ok {w w' : World} {a : Asg} (h : w.mkAssignment a = .ok w') :
    w'.pools = w.pools ∧ w'.cfg = w.cfg ∧ w'.nextCid = w.nextCid := by
  obtain ⟨_, _, _, _, _, rfl⟩ := mkAssignment_ok h
  exact ⟨rfl, rfl, rfl⟩

theorem mkAssignment_pools_err {w w' : World} {a : Asg} {e : Err} (h : w.mkAssignment a = .error (e, w')) :
    w'.pools = w.pools ∧ w'.cfg = w.cfg ∧ w'.nextCid = w.nextCid := by
  rcases mkAssignment_err h with rfl | ⟨_, _, rfl⟩ <;> exact ⟨rfl, rfl, rfl⟩

def World.Fresh (w : World) : Prop := ∀ r, w.store.stOf r = pending

theorem fresh_parentsInv {w : World} (h : w.Fresh) : ParentsInv w.store := by
  intro r hr
  rw [h r] at hr
  rcases hr with hr | hr <;> cases hr

/-- `Q` takes the counter `n` because invariants bound container numbers by it.  `ok` and `err` also return `n ≤ n'`:
    the pools not ticked in this step keep `Q` at the new counter through `mono`. -/
structure TickInvariant (Q : Cfg → Pool → Nat → Prop) : Prop where
  mono : ∀ cfg p n n', Q cfg p n → n ≤ n' → Q cfg p n'
  ok : ∀ cfg w p n cm w' p' n' res, Q cfg p n → poolTick cfg w p n cm = .ok (w', p', n', res) → Q cfg p' n' ∧ n ≤ n'
  err : ∀ cfg w p n cm e w' p' n', Q cfg p n → poolTick cfg w p n cm = .error (e, some (w', p', n')) → Q cfg p' n' ∧ n ≤ n'

structure PhaseInvariant (Q : Cfg → Pool → Nat → Prop) : Prop where
  mono : ∀ {cfg p n n'}, Q cfg p n → n ≤ n' → Q cfg p n'
  sus : ∀ {cfg w p n l w1 p1}, Q cfg p n → susPhase cfg w p l = .ok (w1, p1) → Q cfg p1 n
  start : ∀ {cfg w p n as p' n'}, Q cfg p n → asgGate cfg p as = .ok () → startAll cfg w p n as = .ok (p', n') → Q cfg p' n'
  startErr : ∀ {cfg w p n as e p' n'}, Q cfg p n → asgGate cfg p as = .ok () → startAll cfg w p n as = .error (e, p', n') → Q cfg p' n'
  run : ∀ {cfg w p n w' p' res}, Q cfg p n → poolRun cfg w p = .ok (w', p', res) → Q cfg p' n

theorem PhaseInvariant.tick {Q : Cfg → Pool → Nat → Prop} (P : PhaseInvariant Q) : TickInvariant Q where
  mono _ _ _ _ := P.mono
  ok _ _ _ _ _ _ _ _ _ g h := by
    obtain ⟨_, _, _, _, hs, hg, hst, hr⟩ := poolTick_ok h
    exact ⟨P.run (P.start (P.sus g hs) hg hst) hr, startAll_le hst⟩
  err _ _ _ _ _ _ _ _ _ g h := by
    rcases poolTick_err h with ⟨_, _, rfl, rfl⟩ | ⟨hs, _, rfl⟩ | ⟨_, hs, hg, hst⟩
    · exact ⟨g, Nat.le_refl _⟩
    · exact ⟨P.sus g hs, Nat.le_refl _⟩
    · exact ⟨P.startErr (P.sus g hs) hg hst, startAll_err_le hst⟩

theorem TickInvariant.step {Q : Cfg → Pool → Nat → Prop} (T : TickInvariant Q) {cfg : Cfg} {w w' : Store} {p p' : Pool}
    {n n' : Nat} {cm : Cmds} {res : List Res} {done todo : List Pool} (hp : poolTick cfg w p n cm = .ok (w', p', n', res))
    (hd : ∀ q ∈ done, Q cfg q n) (ht : ∀ q ∈ p :: todo, Q cfg q n) :
    (∀ q ∈ done ++ [p'], Q cfg q n') ∧ ∀ q ∈ todo, Q cfg q n' := by
  obtain ⟨g1, hn1⟩ := T.ok _ _ _ _ _ _ _ _ _ (ht p List.mem_cons_self) hp
  refine ⟨fun q hq => ?_, fun q hq => T.mono _ _ _ _ (ht q (List.mem_cons_of_mem _ hq)) hn1⟩
  rcases List.mem_append.mp hq with h1 | h1
  · exact T.mono _ _ _ _ (hd q h1) hn1
  · rw [List.mem_singleton.mp h1]; exact g1

theorem execPools_lift {Q : Cfg → Pool → Nat → Prop} (T : TickInvariant Q) {cfg : Cfg} {sus : List (Nat × Nat)} {asgs : List Asg}
    {s s' : Store} {n n' : Nat} {done todo ps : List Pool} {res res' : List Res}
    (h : execPools cfg sus asgs s n done todo res = .ok (s', ps, n', res')) :
    (∀ p ∈ done, Q cfg p n) → (∀ p ∈ todo, Q cfg p n) → ∀ p ∈ ps, Q cfg p n' := by
  induction h using execPools_induct with
  | nil => exact fun hd _ => hd
  | step _ hp _ ih => exact fun hd ht => ih (T.step hp hd ht).1 (T.step hp hd ht).2

theorem execPools_lift_err {Q : Cfg → Pool → Nat → Prop} (T : TickInvariant Q) {cfg : Cfg} {sus : List (Nat × Nat)} {asgs : List Asg}
    {s s' : Store} {n n' : Nat} {done todo ps : List Pool} {res : List Res} {e : Err}
    (h : execPools cfg sus asgs s n done todo res = .error (e, some (s', ps, n'))) :
    (∀ p ∈ done, Q cfg p n) → (∀ p ∈ todo, Q cfg p n) → ∀ p ∈ ps, Q cfg p n' := by
  induction h using execPools_err_induct with
  | here _ hp =>
    intro hd ht q hq
    obtain ⟨g1, hn1⟩ := T.err _ _ _ _ _ _ _ _ _ (ht _ List.mem_cons_self) hp
    rcases List.mem_append.mp hq with h1 | h1
    · exact T.mono _ _ _ _ (hd q h1) hn1
    · rcases List.mem_cons.mp h1 with rfl | h2
      · exact g1
      · exact T.mono _ _ _ _ (ht q (List.mem_cons_of_mem _ h2)) hn1
  | later _ hp _ ih => exact fun hd ht => ih (T.step hp hd ht).1 (T.step hp hd ht).2

def World.AllPools (Q : Cfg → Pool → Nat → Prop) (w : World) : Prop := ∀ p ∈ w.pools, Q w.cfg p w.nextCid

theorem reach_lift {Q : Cfg → Pool → Nat → Prop} (T : TickInvariant Q) {w w' : World} (h : Reach w w') (g : w.AllPools Q) : w'.AllPools Q := by
  induction h with
  | refl => exact g
  | assignOk a _ h2 ih =>
    obtain ⟨p1, p2, p3⟩ := mkAssignment_pools_ok h2
    intro p hp; rw [p1] at hp; rw [p2, p3]; exact ih p hp
  | assignErr a e _ h2 ih =>
    obtain ⟨p1, p2, p3⟩ := mkAssignment_pools_err h2
    intro p hp; rw [p1] at hp; rw [p2, p3]; exact ih p hp
  | tickOk sus asgs res _ h2 ih =>
    obtain ⟨_, _, _, _, _, hp, rfl⟩ := execTick_ok h2
    exact execPools_lift T hp (fun _ h => nomatch h) ih
  | tickErr sus asgs e _ h2 ih =>
    rcases execTick_err h2 with ⟨_, rfl⟩ | ⟨_, _, _, hp, rfl⟩
    · exact ih
    · exact execPools_lift_err T hp (fun _ h => nomatch h) ih

end Eudoxia
