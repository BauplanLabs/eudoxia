import EudoxiaModel.Proofs.PrioBudget
import EudoxiaModel.Proofs.OverbookLoop
import EudoxiaModel.Proofs.CtrKept
import EudoxiaModel.Proofs.Preempt
/-! The priority scheduler with single-operator containers in closed loop with the executor: the loop never raises.
    (With one operator per container nothing is ever suspendable, so the pre-emption machinery stays idle; the multi-operator mode is not covered here.) -/
namespace Eudoxia.Prio
open Eudoxia OpState Extracted

def St.jobs (st : St) : List Job := st.qry ++ st.inter ++ st.batch

/-- a waiting job (`WaitingQueueJob`) in single-operator mode; `OpOK` is from `OverbookLoop` -/
structure JobOK (w : World) (j : Job) : Prop where
  one : ∃ o, j.ops = [o] ∧ OpOK w o
  retry : ∀ rs, j.retry = some rs → 0 < rs.oldCpu ∧ 0 < rs.oldRam

structure JobsOK (w : World) (js : List Job) : Prop where
  nd : (js.flatMap (·.ops)).Nodup
  ok : ∀ j ∈ js, JobOK w j

theorem push_jobs_perm (st : St) (j : Job) (p : Nat) : (st.push j p).jobs.Perm (st.jobs ++ [j]) := by
  unfold St.push St.jobs
  split
  · simp only [List.append_assoc]
    exact List.Perm.append_left _ ((List.perm_append_comm_assoc _ _ _).trans (List.Perm.append_left _ List.perm_append_comm))
  · split
    · simp only [List.append_assoc]
      exact List.Perm.append_left _ (List.Perm.append_left _ List.perm_append_comm)
    · simp only [List.append_assoc]
      exact List.Perm.refl _

theorem mem_push (st : St) (j : Job) (p : Nat) (x : Job) : x ∈ (st.push j p).jobs ↔ x ∈ st.jobs ∨ x = j :=
  (push_jobs_perm st j p).mem_iff.trans (by simp)

theorem push_forall {P : Job → Prop} {st : St} {j : Job} (p : Nat) (h : ∀ x ∈ st.jobs, P x) (hj : P j) : ∀ x ∈ (st.push j p).jobs, P x :=
  fun x hx => ((mem_push st j p x).mp hx).elim (h x) (· ▸ hj)

theorem push_susp (st : St) (j : Job) (p : Nat) : (st.push j p).susp = st.susp := by
  unfold St.push; split
  · rfl
  · split <;> rfl

theorem push_ops_perm (st : St) (j : Job) (p : Nat) : ((st.push j p).jobs.flatMap (·.ops)).Perm (st.jobs.flatMap (·.ops) ++ j.ops) := by
  have := (push_jobs_perm st j p).flatMap_right (·.ops)
  rwa [List.flatMap_append, List.flatMap_singleton] at this

theorem push_nodup {st : St} {j : Job} (p : Nat) (hnd : (st.jobs.flatMap (·.ops)).Nodup) (hj : j.ops.Nodup)
    (hnew : ∀ o ∈ j.ops, o ∉ st.jobs.flatMap (·.ops)) : ((st.push j p).jobs.flatMap (·.ops)).Nodup :=
  (push_ops_perm st j p).nodup_iff.mpr (List.nodup_append.mpr ⟨hnd, hj, fun _ ha _ hb e => hnew _ hb (e ▸ ha)⟩)

theorem jobsOK_push {w : World} {st : St} {j : Job} (p : Nat) (h : JobsOK w st.jobs) (hj : JobOK w j)
    (hnew : ∀ o ∈ j.ops, o ∉ st.jobs.flatMap (·.ops)) : JobsOK w (st.push j p).jobs :=
  ⟨push_nodup p h.nd (by obtain ⟨o, ho, _⟩ := hj.one; rw [ho]; simp) hnew,
   push_forall p h.ok hj⟩

/-- the `lookup` of `prEnqueue` -/
def retryLookup (w : World) (results : List Res) (o : Nat) : Option Retry := ((prRetryInfo w results).find? (·.1 == o)).map (·.2)

/-- what `prEnqueue` does for one pipeline when containers hold one operator -/
def enq1 (w : World) (queued : List Nat) (lookup : Nat → Option Retry) (st : St) (pid : Nat) : St :=
  ((w.getOps pid assignable true).filter (fun o => !queued.contains o)).foldl
    (fun st o => st.push { prio := w.prioOf pid, pid := pid, ops := [o], retry := lookup o } (w.prioOf pid)) st

theorem prEnqueue_single (w : World) (st : St) (results : List Res) (newP : List Nat) (hm : w.cfg.multiOp = false) :
    prEnqueue w st results newP = (prTouched w results newP).foldl (enq1 w (st.jobs.flatMap (·.ops)) (retryLookup w results)) st := by
  unfold prEnqueue
  simp only [hm, Bool.not_false, Bool.false_eq_true, ↓reduceIte, ite_isEmpty_foldl]
  rfl

theorem prTouched_nodup (w : World) (results : List Res) (newP : List Nat) (h : newP.Nodup) : (prTouched w results newP).Nodup :=
  foldl_inv (fun _ (acc : List Nat) => acc.Nodup) h fun _ _ _ _ _ hacc =>
    foldl_inv (fun _ (acc : List Nat) => acc.Nodup) hacc fun _ _ _ _ _ h' => dedupAppend_nodup h' _

theorem prRetryInfo_from (w : World) (results : List Res) : ∀ x ∈ prRetryInfo w results, ∃ r ∈ results, x.2 = retryOf r := by
  refine foldl_inv (fun _ (acc : List (Nat × Retry)) => ∀ x ∈ acc, ∃ r ∈ results, x.2 = retryOf r) (fun _ h => nomatch h)
    fun pre r post acc e hacc => ?_
  have hr : r ∈ results := e ▸ List.mem_append_right _ List.mem_cons_self
  by_cases hok : r.ok = true
  · rw [if_pos hok]
    exact hacc
  · rw [if_neg hok]
    refine foldl_inv (fun _ (acc : List (Nat × Retry)) => ∀ x ∈ acc, ∃ r ∈ results, x.2 = retryOf r) hacc fun _ o _ acc _ hacc x hx => ?_
    split at hx
    · rcases List.mem_append.mp hx with hx | hx
      · exact hacc x (List.mem_filter.mp hx).1
      · rw [List.mem_singleton.mp hx]; exact ⟨r, hr, rfl⟩
    · exact hacc x hx

theorem retryLookup_pos (w : World) (results : List Res) (hres : ∀ r ∈ results, 0 < r.cpu ∧ 0 < r.ram) (o : Nat) (rs : Retry)
    (h : retryLookup w results o = some rs) : 0 < rs.oldCpu ∧ 0 < rs.oldRam := by
  unfold retryLookup at h
  obtain ⟨x, hf, rfl⟩ := Option.map_eq_some_iff.mp h
  obtain ⟨r, hr, e⟩ := prRetryInfo_from w results x (List.mem_of_find?_eq_some hf)
  rw [e]
  exact hres r hr

theorem prEnqueue_ok (w : World) (st : St) (results : List Res) (newP : List Nat) (hm : w.cfg.multiOp = false)
    (wf : w.WFP) (hs : w.SegsOK) (hpid : w.PidOK) (hj : JobsOK w st.jobs) (hnd : newP.Nodup) (hres : ∀ r ∈ results, 0 < r.cpu ∧ 0 < r.ram) :
    JobsOK w (prEnqueue w st results newP).jobs ∧ (prEnqueue w st results newP).susp = st.susp := by
  rw [prEnqueue_single w st results newP hm]
  -- `Job.ops` and not `(·.ops)`, whose elaboration would wait for the whole invariant and leave the first obligation with a hole in its type
  have key := foldl_inv (f := enq1 w (st.jobs.flatMap (·.ops)) (retryLookup w results)) (l := prTouched w results newP) (b := st)
    (fun pre s => JobsOK w s.jobs ∧ s.susp = st.susp ∧ ∀ o ∈ s.jobs.flatMap Job.ops, o ∈ st.jobs.flatMap Job.ops ∨ w.store.pidOf o ∈ pre)
    ⟨hj, rfl, fun o ho => .inl ho⟩ ?_
  · exact ⟨key.1, key.2.1⟩
  intro pre pid post s e ⟨hjs, hsu, hq⟩
  have hpd : pid ∉ pre := fun h =>
    (List.nodup_append.mp (e ▸ prTouched_nodup w results newP hnd)).2.2 pid h pid List.mem_cons_self rfl
  have inner := foldl_inv (f := fun st o => st.push { prio := w.prioOf pid, pid := pid, ops := [o], retry := retryLookup w results o } (w.prioOf pid))
    (l := (w.getOps pid assignable true).filter (fun o => !(st.jobs.flatMap (·.ops)).contains o)) (b := s)
    (fun pre' s' => JobsOK w s'.jobs ∧ s'.susp = st.susp ∧
      ∀ o ∈ s'.jobs.flatMap Job.ops, o ∈ st.jobs.flatMap Job.ops ∨ w.store.pidOf o ∈ pre ∨ o ∈ pre')
    ⟨hjs, hsu, fun o ho => (hq o ho).elim .inl (.inr ∘ .inl)⟩ ?_
  · refine ⟨inner.1, inner.2.1, fun o ho => ?_⟩
    rcases inner.2.2 o ho with h | h | h
    · exact .inl h
    · exact .inr (List.mem_append_left _ h)
    · refine .inr (List.mem_append_right _ ?_)
      rw [hpid pid o (OpOK.of_getOps wf hs (List.mem_filter.mp h).1).2]
      exact List.mem_singleton_self _
  intro pre' x post' s' e' ⟨hjs', hsu', hq'⟩
  have hndl := ((getOps_sublist w pid assignable true).nodup (wf pid).1).sublist
    (List.filter_sublist (p := fun o => !(st.jobs.flatMap (·.ops)).contains o))
  rw [e'] at hndl
  obtain ⟨hx1, hx2⟩ := List.mem_filter.mp (e' ▸ List.mem_append_right pre' List.mem_cons_self)
  obtain ⟨hxok, hxord⟩ := OpOK.of_getOps wf hs hx1
  have hxnew : x ∉ s'.jobs.flatMap (·.ops) := by
    intro hin
    rcases hq' x hin with h | h | h
    · simp [h] at hx2
    · exact hpd (hpid pid x hxord ▸ h)
    · exact (List.nodup_append.mp hndl).2.2 x h x List.mem_cons_self rfl
  refine ⟨jobsOK_push _ hjs' ⟨⟨x, rfl, hxok⟩, retryLookup_pos w results hres x⟩ (fun o ho => List.mem_singleton.mp ho ▸ hxnew),
    by rw [push_susp, hsu'], fun o ho => ?_⟩
  rcases List.mem_append.mp ((push_ops_perm s' _ _).mem_iff.mp ho) with h | h
  · rcases hq' o h with h | h | h
    · exact .inl h
    · exact .inr (.inl h)
    · exact .inr (.inr (List.mem_append_left _ h))
  · exact .inr (.inr (List.mem_append_right _ h))

theorem prNoteSuspending_idle (w : World) (st : St) (h : w.NoSusp) : prNoteSuspending w st = st := by
  refine foldl_inv (fun _ s => s = st) rfl fun _ k _ s _ hs => ?_
  have hk : (w.pools.getD k default).suspending = [] := by
    rw [List.getD_eq_getElem?_getD]
    cases hp : w.pools[k]? with
    | none => rfl
    | some p => exact h p (List.mem_of_getElem? hp)
  rw [hk]
  exact hs

theorem prRequeueSuspended_idle (w : World) (st : St) (h : st.susp = []) : prRequeueSuspended w st = st := by
  refine foldl_inv (fun _ s => s = st) rfl fun _ k _ s _ hs => foldl_inv (fun _ s => s = st) hs fun _ c _ s' _ hs' => ?_
  subst hs'
  simp only [h, List.find?_nil]

theorem prSuspend_idle (pools : List (List Ctr)) (need : Nat) (h : ∀ l ∈ pools, ∀ c ∈ l, c.canSuspend = false) : prSuspend pools need = [] := by
  -- every request names a suspendable container of some pool, and there is none
  refine List.eq_nil_iff_forall_not_mem.mpr fun x hx => ?_
  obtain ⟨c, hc, _, _, hs⟩ := (Preempt.prSuspend_spec pools need).1 x hx
  rw [List.getD_eq_getElem?_getD] at hc
  cases hp : pools[x.1]? with
  | none => rw [hp] at hc; cases hc
  | some l =>
    rw [hp] at hc
    rw [h l (List.mem_of_getElem? hp) c hc] at hs
    cases hs

theorem jobOK_keep {w w' : World} {j : Job} (hs : Steps w.store w'.store) (he : ∀ o ∈ j.ops, w'.store.stOf o = w.store.stOf o) (h : JobOK w j) : JobOK w' j := by
  obtain ⟨o, ho, hok⟩ := h.one
  exact ⟨⟨o, ho, hok.steps hs (he o (by rw [ho]; simp))⟩, h.retry⟩

theorem jobOK_pred : JobPred JobOK where
  ops w j h := by
    obtain ⟨o, ho, ok⟩ := h.one
    rw [ho]
    exact ⟨by simp, by simp, fun x hx => by rw [List.mem_singleton.mp hx]; exact ⟨ok.1, ok.2.1⟩⟩
  keep _ _ _ hs he h := jobOK_keep hs he h

theorem prSize_pos (q : Nat) (hq : 0 < q) (s : Snap) (job : Job) (jc jr : Nat) (h0 : 0 < s.availC) (h1 : 0 < s.availR)
    (hr : ∀ rs, job.retry = some rs → 0 < rs.oldCpu ∧ 0 < rs.oldRam) (h : prSize q s job = some (jc, jr)) : 0 < jc ∧ 0 < jr := by
  rcases C08.prSize_some h with ⟨rfl, rfl⟩ | ⟨rs, hrs, _, _, hsz⟩
  · exact C08.newSize_pos q hq s h0 h1
  · have := hr rs hrs
    omega

/-- the pool `priority` picks is open, so the size it computes is positive and fits -/
theorem prSuits {q : Nat} (hq : 0 < q) {JP : World → Job → Prop}
    (hr : ∀ w j, JP w j → ∀ rs, j.retry = some rs → 0 < rs.oldCpu ∧ 0 < rs.oldRam) : Suits prPick (prSize q) C08.NonNegS JP where
  picks _ _ h := by cases h
  sized w j sn p jc jr hj hn hp hs := by
    obtain ⟨_, h0, h1⟩ := C08.prPick_open sn p hn hp
    obtain ⟨fc, fr⟩ := C08.prSize_fits q _ j jc jr h0 h1 hs
    obtain ⟨pc, pr⟩ := prSize_pos q hq _ j jc jr h0 h1 (hr w j hj) hs
    exact ⟨pc, pr, C08.snapSub_nonneg sn p jc jr hn fc fr⟩

theorem prRun_asgs {q : Nat} {w : World} {sn sn' : List Snap} {js : List Job} {new : List Asg} (r : QRun prPick (prSize q) sn js new sn')
    (hl : sn.length = w.pools.length) (hok : ∀ j ∈ js, JobOK w j) :
    ∀ a ∈ new, a.pool < w.pools.length ∧ ∃ o, a.ops = [o] ∧ OpOK w o := by
  intro a ha
  obtain ⟨j, hj, e, _⟩ := r.job ha
  obtain ⟨o, ho, ok⟩ := (hok j hj).one
  exact ⟨hl ▸ C08.prRun_pool r a ha, o, e.trans ho, ok⟩

theorem mem_ops_of_sub {l l' : List Job} (hs : ∀ j ∈ l', j ∈ l) {x : Nat} (h : x ∈ l'.flatMap (·.ops)) : x ∈ l.flatMap (·.ops) := by
  obtain ⟨j, hj, hx⟩ := List.mem_flatMap.mp h
  exact List.mem_flatMap.mpr ⟨j, hs j hj, hx⟩

theorem prRound_single (w : World) (st : St) (results : List Res) (newP : List Nat) (hm : w.cfg.multiOp = false) (hq : 0 < w.cfg.q)
    (wf : w.WFP) (hs : w.SegsOK) (hpid : w.PidOK) (hj : JobsOK w st.jobs) (hsu : st.susp = []) (hns : w.NoSusp) (hnd : newP.Nodup)
    (hres : ∀ r ∈ results, 0 < r.cpu ∧ 0 < r.ram) (hnn : ∀ p ∈ w.pools, 0 ≤ p.availC ∧ 0 ≤ p.availR)
    (hcs : ∀ p ∈ w.pools, ∀ c ∈ p.active, c.canSuspend = false) :
    ∃ w' st' asgs, prRound w st results newP = .ok (w', st', { sus := [], asgs := asgs }) ∧ Built w asgs w' ∧ JobsOK w' st'.jobs ∧ st'.susp = [] ∧
      (∀ a ∈ asgs, a.pool < w.pools.length ∧ ∃ o, a.ops = [o] ∧ OpOK w o) ∧
      (∀ p, p < w.pools.length → verifyAssignments w.cfg (w.pools.getD p default) (asgs.filter (·.pool == p)) = .ok ()) := by
  obtain ⟨hj0, hsu0⟩ := prEnqueue_ok w st results newP hm wf hs hpid hj hnd hres
  generalize hst0 : prEnqueue w st results newP = st0 at hj0 hsu0
  have e0 : prRequeueSuspended w (prNoteSuspending w (prEnqueue w st results newP)) = st0 := by
    rw [hst0, prNoteSuspending_idle _ _ hns, prRequeueSuspended_idle _ _ (by rw [hsu0, hsu])]
  have hsn : C08.NonNegS (snaps w) := C08.nonNegS_snaps hnn
  have su : Suits prPick (prSize w.cfg.q) C08.NonNegS JobOK := prSuits hq fun _ _ h => h.retry
  obtain ⟨w1, sn1, m1, new1, w2, sn2, m2, new2, w3, sn3, m3, new3, t1, t2, t3, hnd', hok'⟩ :=
    gQueue_round su su su jobOK_pred (l1 := st0.qry) (l2 := st0.inter) (l3 := st0.batch) hj0.nd hj0.ok hsn
  have hidle : prSuspend (w.pools.map (·.active)) (st0.qry.drop m1).length = [] := by
    apply prSuspend_idle
    intro l hl c hc
    obtain ⟨p, hp, rfl⟩ := List.mem_map.mp hl
    exact hcs p hp c hc
  have r := (t1.qrun.append t2.qrun).append t3.qrun
  refine ⟨w3, { st0 with qry := st0.qry.drop m1, inter := st0.inter.drop m2, batch := st0.batch.drop m3 }, new1 ++ new2 ++ new3, ?_,
    (t1.built.append t2.built).append t3.built, ⟨hnd', hok'⟩, by rw [← hsu, ← hsu0], ?_, ?_⟩
  · unfold prRound
    simp only [e0, prQueue_eq, t1.run, t2.run, t3.run, hidle, ite_self, List.foldl_nil]
  · exact prRun_asgs r (by simp [snaps]) fun j hj' =>
      hj0.ok j ((((List.take_sublist _ _).append (List.take_sublist _ _)).append (List.take_sublist _ _)).subset hj')
  · intro p hp
    obtain ⟨_, bud⟩ := r.budget C08.prPick_open (C08.prSize_fits _) hsn
    exact C08.accepted_of_budget w _ _ bud t3.inv p hp

theorem free_nonneg {w : World} (hr : WorldReady w) (ho : w.cfg.overcommit = false) : ∀ p ∈ w.pools, 0 ≤ p.availC ∧ 0 ≤ p.availR :=
  fun p hp => let g := (hr.pools p hp).1.1.2; ⟨g.1, g.2 ho⟩

theorem verified_at {w : World} {asgs : List Asg}
    (hbud : ∀ p, p < w.pools.length → verifyAssignments w.cfg (w.pools.getD p default) (asgs.filter (·.pool == p)) = .ok ()) :
    ∀ k p, w.pools[k]? = some p → (asgs.filter (·.pool == k)).isEmpty = true ∨ verifyAssignments w.cfg p (asgs.filter (·.pool == k)) = .ok () := by
  intro k p hk
  have := hbud k (List.getElem?_eq_some_iff.mp hk).1
  rw [List.getD_eq_getElem?_getD, hk] at this
  exact .inr this

structure PRInv (w : World) (st : St) (res : List Res) : Prop where
  ready : WorldReady w
  wfp : w.WFP
  segs : w.SegsOK
  pid : w.PidOK
  nosusp : w.NoSusp
  multi : w.cfg.multiOp = false
  over : w.cfg.overcommit = false
  q : 0 < w.cfg.q
  jobs : JobsOK w st.jobs
  susp : st.susp = []
  rs : ∀ r ∈ res, ∃ c, SingleCtr c ∧ r = mkRes c
  single : ∀ p ∈ w.pools, AllC SingleCtr p.active

/-- one scheduling round of `priority` (single-operator containers) plus one executor tick never raise, and `PRInv` holds again -/
theorem priority_single_tick_never_raises (w : World) (st : St) (res : List Res) (newP : List Nat) (hnd : newP.Nodup) (inv : PRInv w st res) :
    ∃ w1 st1 dec w2 res2, prRound w st res newP = .ok (w1, st1, dec) ∧ w1.execTick dec.sus dec.asgs = .ok (w2, res2) ∧ PRInv w2 st1 res2 := by
  obtain ⟨w1, st1, asgs, hrd, hb, hj1, hsu1, hall, hbud⟩ := prRound_single w st res newP inv.multi inv.q inv.wfp inv.segs inv.pid inv.jobs inv.susp
    inv.nosusp hnd (by intro r hr; obtain ⟨c, hc, rfl⟩ := inv.rs r hr; exact ⟨hc.2.1, hc.2.2.1⟩) (free_nonneg inv.ready inv.over)
    (by intro p hp c hc; exact (inv.single p hp c hc).2.2.2.2)
  obtain ⟨e1, e2, _, est⟩ := built_frame hb
  have hseg : ∀ a ∈ asgs, ∀ r ∈ a.ops, w.store.segsOf r ≠ [] := fun a ha r hrr => by
    obtain ⟨_, o, eo, ok⟩ := hall a ha
    rw [eo, List.mem_singleton] at hrr
    exact hrr ▸ ok.2.2.2
  have hpar : ∀ a ∈ asgs, ParentsOK w1.store a.ops := fun a ha => by
    obtain ⟨_, o, eo, ok⟩ := hall a ha
    rw [eo]
    exact parentsOK_frame (parentsOK_singleton ok.2.2.1) est.ops (completed_final est)
  obtain ⟨w2, res2, hex, r2, ns2, p2, c2, st02, st2⟩ := execTick_of_round inv.ready inv.nosusp
    { built := hb, seg := hseg, par := hpar
      pool := fun a ha => (hall a ha).1
      verified := verified_at hbud
      count := fun a ha => let ⟨_, _, er, _⟩ := hall a ha; opCountOk_singleton er }
  have hbs := hb.pos
  obtain ⟨hp2, hr2⟩ := execTick_kept (single_kept w1.cfg)
    (fun a ha s' j => mkCtr_single s' j a (let ⟨_, r0, er, _⟩ := hall a ha; ⟨r0, er⟩) (hbs a ha).2.1 (hbs a ha).2.2)
    (fun p hp => inv.single p (e1 ▸ hp)) hex
  refine ⟨w1, st1, { sus := [], asgs := asgs }, w2, res2, hrd, hex,
    ⟨r2, inv.wfp.steps p2 st02, inv.segs.steps p2 st02, inv.pid.steps p2 st02, ns2, by rw [c2]; exact inv.multi, by rw [c2]; exact inv.over,
      by rw [c2]; exact inv.q, ⟨hj1.nd, fun j hj => ?_⟩, hsu1, hr2, hp2⟩⟩
  -- the queues after the tick: their operators are PENDING or FAILED, which a tick never moves
  obtain ⟨o, eo, ok⟩ := (hj1.ok j hj).one
  refine jobOK_keep st2 (fun x hx => ?_) (hj1.ok j hj)
  rw [eo, List.mem_singleton] at hx
  exact hx ▸ execTick_keeps_assignable inv.ready hb hseg hpar hex ok.2.1

def loop : World → St → List Res → List (List Nat) → Except Err (World × St × List Res)
  | w, st, res, [] => .ok (w, st, res)
  | w, st, res, newP :: rest =>
    match prRound w st res newP with
    | .error e => .error e.1
    | .ok (w1, st1, dec) =>
      match w1.execTick dec.sus dec.asgs with
      | .error e => .error e.1
      | .ok (w2, res2) => loop w2 st1 res2 rest

/-- **the priority scheduler with single-operator containers drives any run to its last tick without raising** (no memory overcommit; the pipelines
arriving in one tick are distinct) -/
theorem run_single_never_raises : ∀ (arrivals : List (List Nat)) (w : World) (st : St) (res : List Res), (∀ newP ∈ arrivals, newP.Nodup) →
    PRInv w st res → ∃ w' st' res', loop w st res arrivals = .ok (w', st', res') ∧ PRInv w' st' res' := by
  intro arrivals
  induction arrivals with
  | nil => intro w st res _ inv; exact ⟨w, st, res, rfl, inv⟩
  | cons newP rest ih =>
    intro w st res hn inv
    obtain ⟨w1, st1, dec, w2, res2, h1, h2, inv2⟩ := priority_single_tick_never_raises w st res newP (hn newP (by simp)) inv
    obtain ⟨w', st', res', ho, inv'⟩ := ih w2 st1 res2 (fun x hx => hn x (List.mem_cons_of_mem _ hx)) inv2
    exact ⟨w', st', res', by unfold loop; rw [h1]; simp only; rw [h2]; exact ho, inv'⟩

end Eudoxia.Prio
