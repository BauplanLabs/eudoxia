import EudoxiaModel.Model.Hyp
import EudoxiaModel.Proofs.NaiveMulti
/-! The decidable checks of `Model/Hyp.lean` imply the hypotheses of the whole-run theorems. -/
namespace Eudoxia
open OpState Extracted

theorem orderOf_out (w : World) (pid : Nat) (h : ¬ pid < w.pipes.size) : (w.pipes.getD pid default).order = [] := by
  rw [Array.getD_eq_getD_getElem?, Array.getElem?_eq_none (by omega)]
  rfl

theorem forall_orderOf {w : World} {f : Nat → Bool} {P : Nat → List Nat → Prop} (h : (List.range w.pipes.size).all f = true)
    (hf : ∀ pid, f pid = true → P pid (w.orderOf pid)) (hnil : ∀ pid, P pid []) (pid : Nat) : P pid (w.pipes.getD pid default).order := by
  by_cases hp : pid < w.pipes.size
  · exact hf pid (List.all_eq_true.mp h pid (List.mem_range.mpr hp))
  · rw [orderOf_out w pid hp]; exact hnil pid

theorem wfpB_sound (w : World) (h : w.wfpB = true) : w.WFP :=
  forall_orderOf (P := fun _ l => l.Nodup ∧ ∀ r ∈ l, r < w.store.st.size) h (fun _ hf => by simpa using hf) (fun _ => by simp)

theorem segsB_sound (w : World) (h : w.segsB = true) : w.SegsOK :=
  forall_orderOf (P := fun _ l => ∀ r ∈ l, w.store.segsOf r ≠ []) h (fun _ hf => by simpa using hf) (fun _ => by simp)

theorem pidB_sound (w : World) (h : w.pidB = true) : w.PidOK :=
  forall_orderOf (P := fun pid l => ∀ r ∈ l, w.store.pidOf r = pid) h (fun _ hf => by simpa using hf) (fun _ => by simp)

theorem topoListB_sound (parentsOf : Nat → List Nat) : ∀ (l pre0 : List Nat), topoListB parentsOf pre0 l = true →
    ∀ pre r post, l = pre ++ r :: post → ∀ q ∈ parentsOf r, q ∈ pre0 ++ pre := by
  intro l
  induction l with
  | nil => intro pre0 _ pre r post e; cases pre <;> cases e
  | cons x xs ih =>
    intro pre0 h pre r post e q hq
    simp only [topoListB, Bool.and_eq_true, List.all_eq_true] at h
    cases pre with
    | nil =>
      cases e
      simpa using h.1 q hq
    | cons y ys =>
      cases e
      simpa [List.append_assoc] using ih (pre0 ++ [x]) h.2 ys r post rfl q hq

theorem topoB_sound (w : World) (h : w.topoB = true) : w.Topo := fun pid pre r post =>
  forall_orderOf (P := fun _ l => l = pre ++ r :: post → ∀ q ∈ w.store.parentsOf r, q ∈ pre) h
    (fun _ hf e q hq => by simpa using topoListB_sound w.store.parentsOf _ [] hf pre r post e q hq)
    (fun _ e => by cases pre <;> cases e) pid

theorem futureB_sound (w : World) (F : List Nat) (h : w.futureB F = true) :
    F.Nodup ∧ ∀ pid ∈ F, (w.pipes.getD pid default).order ≠ [] ∧ ∀ o ∈ (w.pipes.getD pid default).order, w.store.stOf o = pending := by
  obtain ⟨hnd, hall⟩ := Bool.and_eq_true_iff.mp h
  refine ⟨of_decide_eq_true hnd, fun pid hpid => ?_⟩
  obtain ⟨hne, hpend⟩ := Bool.and_eq_true_iff.mp (List.all_eq_true.mp hall pid hpid)
  refine ⟨fun e => ?_, fun o ho => eq_of_beq (List.all_eq_true.mp hpend o ho)⟩
  rw [World.orderOf, e] at hne
  cases hne

end Eudoxia
