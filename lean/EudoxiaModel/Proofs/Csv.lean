import EudoxiaModel.Model.Csv
/-! Reading back what was written yields the same pipelines, and what the reader has checked when it accepts a batch (C14). Core Lean only. -/
namespace Eudoxia.Csv

/-- the table `buildOps` holds after `i` rows written by `opRows` -/
def tblUpTo (i : Nat) : List (Nat × Nat) := (List.range i).map (fun j => (j + 1, j))

theorem tblUpTo_succ (i : Nat) : tblUpTo (i + 1) = tblUpTo i ++ [(i + 1, i)] := by
  simp [tblUpTo, List.range_succ]

theorem lookup_append_singleton (tbl : List (Nat × Nat)) (a b id : Nat) :
    lookup (tbl ++ [(a, b)]) id = if a = id then some b else lookup tbl id := by
  by_cases h : a = id <;> simp [lookup, h]

theorem lookup_tblUpTo : ∀ (i q : Nat), q < i → lookup (tblUpTo i) (q + 1) = some q := by
  intro i
  induction i with
  | zero => intro q h; omega
  | succ i ih =>
    intro q h
    rw [tblUpTo_succ, lookup_append_singleton]
    split
    · congr 1; omega
    · exact ih q (by omega)

theorem resolveAll_tblUpTo (i : Nat) : ∀ (ps : List Nat), (∀ q ∈ ps, q < i) →
    resolveAll (tblUpTo i) (ps.map (· + 1)) = some ps := by
  intro ps
  induction ps with
  | nil => intro _; rfl
  | cons q qs ih =>
    intro h
    rw [List.forall_mem_cons] at h
    rw [List.map_cons, resolveAll, lookup_tblUpTo i q h.1, ih h.2]

theorem build_opRows (k : Nat) (p : CPipe) : ∀ (os : List COp) (i : Nat), COpsWF i os →
    buildOps (tblUpTo i) i (opRows k p i os) = .ok os := by
  intro os
  induction os with
  | nil => intro i _; rfl
  | cons o os ih =>
    intro i ⟨hp, hl, hrest⟩
    simp only [opRows, buildOps, resolveAll_tblUpTo i o.parents hp, hl, ← tblUpTo_succ, ih (i + 1) hrest]
    rfl

theorem laterRows_opRows (k : Nat) (p : CPipe) : ∀ (os : List COp) (i : Nat), 0 < i → laterRowsOk (opRows k p i os) = .ok () := by
  intro os
  induction os with
  | nil => intro i _; rfl
  | cons o os ih =>
    intro i hi
    have h0 : (i == 0) = false := beq_false_of_ne (by omega)
    simp only [opRows, laterRowsOk, h0, Bool.false_eq_true, ↓reduceIte, bne_self_eq_false, Option.isSome_none]
    exact ih (i + 1) (by omega)

theorem mkPipe_pipeRows (k : Nat) (p : CPipe) (h : p.WF) : mkPipe (pipeRows k p) = .ok p := by
  obtain ⟨hp, hne, hwf⟩ := h
  have hb := build_opRows k p p.ops 0 hwf
  obtain ⟨prio, arrival, ops⟩ := p
  cases ops with
  | nil => exact absurd rfl hne
  | cons o os =>
    have hl := laterRows_opRows k ⟨prio, arrival, o :: os⟩ os 1 (by omega)
    simp only [pipeRows, opRows, Nat.zero_add, beq_self_eq_true, if_true] at hb hl ⊢
    rw [show tblUpTo 0 = [] from rfl] at hb
    simp [mkPipe, hl, hb, show validPrio prio = true from hp]

theorem group_block (k : Nat) (r : Row) (g : List Row) (hr : r.pid = k) (hk : ∀ x ∈ g, x.pid = k) (rest : List Row)
    (hrest : ∀ x ∈ rest.head?, x.pid ≠ k) : groupRows (r :: g ++ rest) = (r :: g) :: groupRows rest := by
  have hg : ∀ x ∈ g, (x.pid == r.pid) = true := fun x hx => by rw [hk x hx, hr]; exact beq_self_eq_true k
  have hstop : rest.takeWhile (fun x => x.pid == r.pid) = [] ∧ rest.dropWhile (fun x => x.pid == r.pid) = rest := by
    cases rest with
    | nil => exact ⟨rfl, rfl⟩
    | cons x xs =>
      have : (x.pid == r.pid) = false := by rw [hr]; exact beq_false_of_ne (hrest x rfl)
      simp [this]
  rw [List.cons_append, groupRows, List.takeWhile_append_of_pos hg, List.dropWhile_append_of_pos hg, hstop.1, hstop.2, List.append_nil]

theorem pipeRows_pid (k : Nat) (p : CPipe) : ∀ r ∈ pipeRows k p, r.pid = k := by
  unfold pipeRows
  generalize 0 = i
  induction p.ops generalizing i with
  | nil => intro r hr; cases hr
  | cons o os ih =>
    intro r hr
    simp only [opRows, List.mem_cons] at hr
    rcases hr with rfl | hr
    · rfl
    · exact ih _ r hr

theorem read_toRowsFrom : ∀ (ps : List CPipe) (k : Nat), (∀ p ∈ ps, p.WF) →
    mapM' (groupRows (toRowsFrom k ps)) = .ok ps ∧ ∀ r ∈ (toRowsFrom k ps).head?, r.pid = k := by
  intro ps
  induction ps with
  | nil => intro k _; simp [toRowsFrom, groupRows, mapM']
  | cons p ps ih =>
    intro k hwf
    rw [List.forall_mem_cons] at hwf
    obtain ⟨ih1, ih2⟩ := ih (k + 1) hwf.2
    have hpid := pipeRows_pid k p
    have hmk := mkPipe_pipeRows k p hwf.1
    cases hpr : pipeRows k p with
    | nil => rw [hpr] at hmk; cases hmk
    | cons r0 rs =>
      rw [hpr] at hmk
      rw [hpr, List.forall_mem_cons] at hpid
      simp only [toRowsFrom, hpr]
      refine ⟨?_, fun r hr => ?_⟩
      · rw [group_block k r0 rs hpid.1 hpid.2 _ (fun r hr => by have := ih2 r hr; omega), mapM', hmk, ih1]
      · cases hr; exact hpid.1

/-- **writing then reading yields the same pipelines** -/
theorem read_write_id (ps : List CPipe) (h : ∀ p ∈ ps, p.WF) : fromRows (toRows ps) = .ok ps :=
  (read_toRowsFrom ps 1 h).1

/-- what `mkPipe` has checked, in this order, when it accepts a batch -/
structure Accepted (r : Row) (rs : List Row) (p : CPipe) : Prop where
  prio : validPrio r.prio = true
  arrival : r.arrival.isSome
  later : laterRowsOk rs = .ok ()
  ops : buildOps [] 0 (r :: rs) = .ok p.ops

theorem mkPipe_ok_first {r : Row} {rs : List Row} {p : CPipe} (h : mkPipe (r :: rs) = .ok p) : Accepted r rs p := by
  unfold mkPipe at h
  cases hp : validPrio r.prio
  · simp [hp] at h
  · cases ha : r.arrival with
    | none => simp [hp, ha] at h
    | some a =>
      cases hl : laterRowsOk rs with
      | error e => simp [hp, ha, hl] at h
      | ok u =>
        cases hb : buildOps [] 0 (r :: rs) with
        | error e => simp [hp, ha, hl, hb] at h
        | ok os =>
          simp [hp, ha, hl, hb] at h
          subst h
          exact ⟨hp, by rw [ha]; rfl, hl, hb⟩

theorem laterRowsOk_ok : ∀ (rs : List Row), laterRowsOk rs = .ok () → ∀ x ∈ rs, x.prio = "" ∧ x.arrival = none := by
  intro rs
  induction rs with
  | nil => intro _ x hx; cases hx
  | cons r rs ih =>
    intro h x hx
    unfold laterRowsOk at h
    split at h
    · cases h
    · rename_i h1
      split at h
      · cases h
      · rename_i h2
        rcases List.mem_cons.mp hx with rfl | hx'
        · exact ⟨by simpa using h1, by simpa using h2⟩
        · exact ih h x hx'

theorem buildOps_cons_ok {tbl : List (Nat × Nat)} {n : Nat} {r : Row} {rs : List Row} {os : List COp}
    (h : buildOps tbl n (r :: rs) = .ok os) :
    ∃ ps os', resolveAll tbl r.parents = some ps ∧ validLaw r.law = true ∧ buildOps (tbl ++ [(r.opId, n)]) (n + 1) rs = .ok os' := by
  unfold buildOps at h
  split at h
  · cases h
  · rename_i ps hr
    split at h
    · cases h
    · rename_i hl
      split at h
      · cases h
      · rename_i os' hb
        exact ⟨ps, os', hr, by simpa using hl, hb⟩

theorem buildOps_ok : ∀ (rows : List Row) (tbl : List (Nat × Nat)) (n : Nat) (os : List COp),
    buildOps tbl n rows = .ok os → ∀ x ∈ rows, validLaw x.law = true := by
  intro rows
  induction rows with
  | nil => intro _ _ _ _ x hx; cases hx
  | cons r rs ih =>
    intro tbl n os h x hx
    obtain ⟨_, _, _, hl, hb⟩ := buildOps_cons_ok h
    rcases List.mem_cons.mp hx with rfl | hx'
    · exact hl
    · exact ih _ _ _ hb x hx'

theorem lookup_some {tbl : List (Nat × Nat)} {id i : Nat} (h : lookup tbl id = some i) : ∃ e ∈ tbl, e.1 = id := by
  unfold lookup at h
  split at h
  · rename_i e he
    exact ⟨e, by have := List.mem_of_find?_eq_some he; simpa using this, by have := List.find?_some he; simpa using this⟩
  · cases h

theorem resolveAll_some : ∀ (ps : List Nat) (tbl : List (Nat × Nat)) (is : List Nat),
    resolveAll tbl ps = some is → ∀ q ∈ ps, ∃ e ∈ tbl, e.1 = q := by
  intro ps
  induction ps with
  | nil => intro _ _ _ q hq; cases hq
  | cons x xs ih =>
    intro tbl is h q hq
    unfold resolveAll at h
    split at h
    · rename_i i is' hl hr
      rcases List.mem_cons.mp hq with rfl | hq'
      · exact lookup_some hl
      · exact ih _ _ hr q hq'
    · cases h

end Eudoxia.Csv
