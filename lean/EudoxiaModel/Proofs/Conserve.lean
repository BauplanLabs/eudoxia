import EudoxiaModel.Proofs.ExecSteps
/-! Sums of allocations and of memory over container lists, and what the steps of a container's life keep of it
    (C03): its number and its allocation, `key`. -/
namespace Eudoxia
open OpState

def key (c : Ctr) : Nat × Nat × Nat := (c.cid, c.cpu, c.ram)

/-- `cpuSum`, `ramSum`, `memSum` are `fieldSum` of one field each, by `rfl` -/
def fieldSum (g : Ctr → Nat) (l : List Ctr) : Int := (l.map (fun c => (g c : Int))).sum

theorem fieldSum_cons (g : Ctr → Nat) (c : Ctr) (l : List Ctr) : fieldSum g (c :: l) = g c + fieldSum g l := by
  simp [fieldSum]

theorem fieldSum_append (g : Ctr → Nat) (l1 l2 : List Ctr) : fieldSum g (l1 ++ l2) = fieldSum g l1 + fieldSum g l2 := by
  simp [fieldSum]

theorem fieldSum_filter_split (g : Ctr → Nat) (l : List Ctr) (f : Ctr → Bool) :
    fieldSum g l = fieldSum g (l.filter f) + fieldSum g (l.filter (fun c => !f c)) := by
  induction l with
  | nil => rfl
  | cons c l ih => by_cases h : f c <;> simp [h, fieldSum_cons, ih] <;> omega

theorem fieldSum_nonneg (g : Ctr → Nat) (l : List Ctr) : 0 ≤ fieldSum g l := by
  induction l with
  | nil => exact Int.le_refl 0
  | cons c l ih => rw [fieldSum_cons]; omega

theorem fieldSum_sublist (g : Ctr → Nat) {l l' : List Ctr} (h : l'.Sublist l) : fieldSum g l' ≤ fieldSum g l := by
  induction h with
  | slnil => exact Int.le_refl _
  | cons a _ ih => rw [fieldSum_cons]; omega
  | cons_cons a _ ih => rw [fieldSum_cons, fieldSum_cons]; omega

theorem fieldSum_obs {β : Type} (f : Ctr → β) (g : β → Nat) (l : List Ctr) :
    ((l.map f).map (fun c => (g c : Int))).sum = fieldSum (fun c => g (f c)) l := by
  simp [fieldSum, List.map_map, Function.comp_def]

@[simp] theorem cpuSum_nil : cpuSum [] = 0 := rfl
@[simp] theorem ramSum_nil : ramSum [] = 0 := rfl
@[simp] theorem memSum_nil : memSum [] = 0 := rfl
@[simp] theorem cpuSum_cons (c : Ctr) (l : List Ctr) : cpuSum (c :: l) = c.cpu + cpuSum l := fieldSum_cons _ c l
@[simp] theorem ramSum_cons (c : Ctr) (l : List Ctr) : ramSum (c :: l) = c.ram + ramSum l := fieldSum_cons _ c l
@[simp] theorem memSum_cons (c : Ctr) (l : List Ctr) : memSum (c :: l) = c.mem + memSum l := fieldSum_cons _ c l
@[simp] theorem cpuSum_append (l1 l2 : List Ctr) : cpuSum (l1 ++ l2) = cpuSum l1 + cpuSum l2 := fieldSum_append _ l1 l2
@[simp] theorem ramSum_append (l1 l2 : List Ctr) : ramSum (l1 ++ l2) = ramSum l1 + ramSum l2 := fieldSum_append _ l1 l2

theorem cpuSum_filter_split (l : List Ctr) (f : Ctr → Bool) :
    cpuSum l = cpuSum (l.filter f) + cpuSum (l.filter (fun c => !f c)) := fieldSum_filter_split _ l f

theorem ramSum_filter_split (l : List Ctr) (f : Ctr → Bool) :
    ramSum l = ramSum (l.filter f) + ramSum (l.filter (fun c => !f c)) := fieldSum_filter_split _ l f

theorem cpuSum_nonneg (l : List Ctr) : 0 ≤ cpuSum l := fieldSum_nonneg _ l
theorem ramSum_nonneg (l : List Ctr) : 0 ≤ ramSum l := fieldSum_nonneg _ l
theorem memSum_nonneg (l : List Ctr) : 0 ≤ memSum l := fieldSum_nonneg _ l

theorem memSum_sublist {l l' : List Ctr} (h : l'.Sublist l) : memSum l' ≤ memSum l := fieldSum_sublist _ h

theorem memSum_filter_le (l : List Ctr) (f : Ctr → Bool) : memSum (l.filter f) ≤ memSum l :=
  memSum_sublist List.filter_sublist

def cids (l : List Ctr) : List Nat := l.map (·.cid)

@[simp] theorem cids_append (a b : List Ctr) : cids (a ++ b) = cids a ++ cids b := by simp [cids]
@[simp] theorem cids_cons (c : Ctr) (l : List Ctr) : cids (c :: l) = c.cid :: cids l := rfl
@[simp] theorem cids_nil : cids [] = [] := rfl

theorem eq_of_nodup_map {α β : Type} {f : α → β} {l : List α} (h : (l.map f).Nodup) {x y : α} (hx : x ∈ l) (hy : y ∈ l)
    (e : f x = f y) : x = y := by
  induction l with
  | nil => cases hx
  | cons z zs ih =>
    rw [List.map_cons, List.nodup_cons] at h
    rcases List.mem_cons.mp hx with rfl | hx' <;> rcases List.mem_cons.mp hy with rfl | hy'
    · rfl
    · exact absurd (e ▸ List.mem_map_of_mem hy') h.1
    · exact absurd (e.symm ▸ List.mem_map_of_mem hx') h.1
    · exact ih h.2 hx' hy'

theorem map_of_keys {β : Type} {f : Ctr → β} {k : Nat × Nat × Nat → β} (hk : ∀ c, f c = k (key c)) {l l' : List Ctr}
    (h : l'.map key = l.map key) : l'.map f = l.map f := by
  have : ∀ m : List Ctr, m.map f = (m.map key).map k := by
    intro m; simp [hk, List.map_map, Function.comp_def]
  rw [this, this, h]

theorem cids_keys {l l' : List Ctr} (h : l'.map key = l.map key) : cids l' = cids l :=
  map_of_keys (k := (·.1)) (fun _ => rfl) h

theorem cpuSum_keys {l l' : List Ctr} (h : l'.map key = l.map key) : cpuSum l' = cpuSum l :=
  congrArg List.sum (map_of_keys (k := fun x => (x.2.1 : Int)) (fun _ => rfl) h)

theorem ramSum_keys {l l' : List Ctr} (h : l'.map key = l.map key) : ramSum l' = ramSum l :=
  congrArg List.sum (map_of_keys (k := fun x => (x.2.2 : Int)) (fun _ => rfl) h)

theorem cids_filter_sublist (l : List Ctr) (f : Ctr → Bool) : (cids (l.filter f)).Sublist (cids l) :=
  List.Sublist.map _ List.filter_sublist

theorem Ctr.Ident.key {c c' : Ctr} (h : c.Ident c') : key c' = key c := by
  simp only [Eudoxia.key, h.cid, h.cpu, h.ram]

theorem keys_of_ident {l l' : List Ctr} (h : Forall₂ Ctr.Ident l l') : l'.map key = l.map key :=
  h.map_eq fun _ _ hi => hi.key

theorem cids_of_ident {l l' : List Ctr} (h : Forall₂ Ctr.Ident l l') : cids l' = cids l :=
  h.map_eq fun _ _ hi => hi.cid

end Eudoxia
