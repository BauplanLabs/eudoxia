import EudoxiaModel.Proofs.PrioMulti
import EudoxiaModel.Proofs.PoolLoop
import EudoxiaModel.Proofs.OverbookLoop
/-! Every world in which nothing has been started yet — any configuration, any pools, any registered workload of well-formed pipelines — meets the loop
    invariants of the whole-run theorems.  (The concrete `…Example` files are instances.) -/
namespace Eudoxia
open OpState Extracted

def freshWorld (cfg : Cfg) (store : Store) (pipes : Array PipeInfo) (caps : List (Nat × Nat)) : World :=
  { cfg := cfg, store := store, pools := caps.map (fun c => Pool.fresh c.1 c.2), pipes := pipes }

theorem fresh_pools_empty {cfg : Cfg} {store : Store} {pipes : Array PipeInfo} {caps : List (Nat × Nat)} {p : Pool}
    (hp : p ∈ (freshWorld cfg store pipes caps).pools) : p.active = [] ∧ p.suspending = [] ∧ p.suspended = [] := by
  obtain ⟨x, _, rfl⟩ := List.mem_map.mp hp
  simp [Pool.fresh]

theorem PM.fresh_inv (cfg : Cfg) (store : Store) (pipes : Array PipeInfo) (caps : List (Nat × Nat)) (F : List Nat)
    (hm : cfg.multiOp = true) (ho : cfg.overcommit = false) (hq : 0 < cfg.q)
    (wf : (freshWorld cfg store pipes caps).WFP) (hs : (freshWorld cfg store pipes caps).SegsOK) (hp : (freshWorld cfg store pipes caps).PidOK)
    (ht : (freshWorld cfg store pipes caps).Topo) (hF : F.Nodup)
    (hfut : ∀ pid ∈ F, (pipes.getD pid default).order ≠ [] ∧ ∀ o ∈ (pipes.getD pid default).order, store.stOf o = pending) :
    PM.PMInv (freshWorld cfg store pipes caps) {} [] [] F where
  ready := fresh_world_ready _ _ _ _
  wfp := wf
  segs := hs
  pid := hp
  topo := ht
  fins _ hp' _ hc := (List.mem_append.mp hc).elim (fun h => nomatch (fresh_pools_empty hp').1 ▸ h) (fun h => nomatch (fresh_pools_empty hp').2.1 ▸ h)
  cids := fresh_world_cidsOK _ _ _ _
  multi := hm
  over := ho
  q := hq
  jobs := ⟨List.nodup_nil, (fun _ hj => nomatch hj)⟩
  whole _ hj := nomatch hj
  jobsF _ ho' := nomatch ho'
  fnd := hF
  fut := hfut
  goodA _ hp' _ hc := nomatch (fresh_pools_empty hp').1 ▸ hc
  goodS _ hp' _ hc := nomatch (fresh_pools_empty hp').2.1 ▸ hc
  sne _ hp' _ hc := nomatch (fresh_pools_empty hp').2.1 ▸ hc
  res _ hc := nomatch hc
  park _ hc := nomatch hc
  nd := List.nodup_nil
  resq _ ho' := nomatch ho'
  keys := List.nodup_nil
  nold _ hp' _ hc := nomatch (fresh_pools_empty hp').2.2 ▸ hc
  ent _ hx := nomatch hx
  has _ hc := nomatch hc

theorem PM.fresh_run (cfg : Cfg) (store : Store) (pipes : Array PipeInfo) (caps : List (Nat × Nat)) (arrivals : List (List Nat))
    (hm : cfg.multiOp = true) (ho : cfg.overcommit = false) (hq : 0 < cfg.q)
    (wf : (freshWorld cfg store pipes caps).WFP) (hs : (freshWorld cfg store pipes caps).SegsOK) (hp : (freshWorld cfg store pipes caps).PidOK)
    (ht : (freshWorld cfg store pipes caps).Topo) (hF : arrivals.flatten.Nodup)
    (hfut : ∀ pid ∈ arrivals.flatten, (pipes.getD pid default).order ≠ [] ∧ ∀ o ∈ (pipes.getD pid default).order, store.stOf o = pending) :
    ∃ w' st' cs' js', Prio.loop (freshWorld cfg store pipes caps) {} [] arrivals = .ok (w', st', cs'.map mkRes) ∧ PM.PMInv w' st' cs' js' [] :=
  PM.run_never_raises arrivals _ {} [] [] (PM.fresh_inv cfg store pipes caps _ hm ho hq wf hs hp ht hF hfut)

theorem PP.fresh_poolZT {cpus ram : Nat} (hc : 0 < cpus) (hr : 0 < ram) : PP.PoolZT (Pool.fresh cpus ram) :=
  ⟨Int.natCast_nonneg _, Int.natCast_nonneg _, by show ((cpus : Int) = 0 ↔ (ram : Int) = 0); omega⟩

theorem PP.fresh_inv (cfg : Cfg) (store : Store) (pipes : Array PipeInfo) (c0 c1 : Nat × Nat) (F : List Nat)
    (hm : cfg.multiOp = true) (hq : 0 < cfg.q) (h0 : 0 < c0.1 ∧ 0 < c0.2) (h1 : 0 < c1.1 ∧ 0 < c1.2)
    (wf : (freshWorld cfg store pipes [c0, c1]).WFP) (hs : (freshWorld cfg store pipes [c0, c1]).SegsOK) (hp : (freshWorld cfg store pipes [c0, c1]).PidOK)
    (ht : (freshWorld cfg store pipes [c0, c1]).Topo) (hF : F.Nodup)
    (hfut : ∀ pid ∈ F, (pipes.getD pid default).order ≠ [] ∧ ∀ o ∈ (pipes.getD pid default).order, store.stOf o = pending) :
    PP.PPInv (freshWorld cfg store pipes [c0, c1]) {} [] F where
  ready := fresh_world_ready _ _ _ _
  wfp := wf
  segs := hs
  pid := hp
  topo := ht
  fin := fresh_world_finOK _ _ _ _
  multi := hm
  q := hq
  two := rfl
  zt p hp' := by
    obtain ⟨c, hc, rfl⟩ := List.mem_map.mp hp'
    have hc' : c = c0 ∨ c = c1 := by simpa using hc
    rcases hc' with rfl | rfl
    · exact PP.fresh_poolZT h0.1 h0.2
    · exact PP.fresh_poolZT h1.1 h1.2
  jobs := ⟨List.nodup_nil, fun _ hj => nomatch hj⟩
  jobsF _ ho' := nomatch ho'
  fnd := hF
  fut := hfut
  good _ hp' _ hc := nomatch (fresh_pools_empty hp').1 ▸ hc
  res _ hc := nomatch hc
  resnd := List.nodup_nil
  resq _ ho' := nomatch ho'

theorem PP.fresh_run (cfg : Cfg) (store : Store) (pipes : Array PipeInfo) (c0 c1 : Nat × Nat) (arrivals : List (List Nat))
    (hm : cfg.multiOp = true) (hq : 0 < cfg.q) (h0 : 0 < c0.1 ∧ 0 < c0.2) (h1 : 0 < c1.1 ∧ 0 < c1.2)
    (wf : (freshWorld cfg store pipes [c0, c1]).WFP) (hs : (freshWorld cfg store pipes [c0, c1]).SegsOK) (hp : (freshWorld cfg store pipes [c0, c1]).PidOK)
    (ht : (freshWorld cfg store pipes [c0, c1]).Topo) (hF : arrivals.flatten.Nodup)
    (hfut : ∀ pid ∈ arrivals.flatten, (pipes.getD pid default).order ≠ [] ∧ ∀ o ∈ (pipes.getD pid default).order, store.stOf o = pending) :
    ∃ w' st' cs', PP.loop (freshWorld cfg store pipes [c0, c1]) {} [] arrivals = .ok (w', st', cs'.map mkRes) ∧ PP.PPInv w' st' cs' [] :=
  PP.run_never_raises arrivals _ {} [] (PP.fresh_inv cfg store pipes c0 c1 _ hm hq h0 h1 wf hs hp ht hF hfut)

theorem Prio.fresh_inv_single (cfg : Cfg) (store : Store) (pipes : Array PipeInfo) (caps : List (Nat × Nat))
    (hm : cfg.multiOp = false) (ho : cfg.overcommit = false) (hq : 0 < cfg.q)
    (wf : (freshWorld cfg store pipes caps).WFP) (hs : (freshWorld cfg store pipes caps).SegsOK) (hp : (freshWorld cfg store pipes caps).PidOK) :
    Prio.PRInv (freshWorld cfg store pipes caps) {} [] where
  ready := fresh_world_ready _ _ _ _
  wfp := wf
  segs := hs
  pid := hp
  nosusp _ hp' := (fresh_pools_empty hp').2.1
  multi := hm
  over := ho
  q := hq
  jobs := ⟨List.nodup_nil, fun _ hj => nomatch hj⟩
  susp := rfl
  rs _ hr := nomatch hr
  single _ hp' _ hc := nomatch (fresh_pools_empty hp').1 ▸ hc

theorem Prio.fresh_run_single (cfg : Cfg) (store : Store) (pipes : Array PipeInfo) (caps : List (Nat × Nat)) (arrivals : List (List Nat))
    (hm : cfg.multiOp = false) (ho : cfg.overcommit = false) (hq : 0 < cfg.q)
    (wf : (freshWorld cfg store pipes caps).WFP) (hs : (freshWorld cfg store pipes caps).SegsOK) (hp : (freshWorld cfg store pipes caps).PidOK)
    (hn : ∀ newP ∈ arrivals, newP.Nodup) :
    ∃ w' st' res', Prio.loop (freshWorld cfg store pipes caps) {} [] arrivals = .ok (w', st', res') ∧ Prio.PRInv w' st' res' :=
  Prio.run_single_never_raises arrivals _ {} [] hn (Prio.fresh_inv_single cfg store pipes caps hm ho hq wf hs hp)

theorem Overbook.fresh_inv (cfg : Cfg) (store : Store) (pipes : Array PipeInfo) (caps : List (Nat × Nat))
    (ho : cfg.overcommit = true) (hc : ∀ c ∈ caps, 0 < c.2)
    (wf : (freshWorld cfg store pipes caps).WFP) (hs : (freshWorld cfg store pipes caps).SegsOK) :
    Overbook.OBInv (freshWorld cfg store pipes caps) {} [] where
  ready := fresh_world_ready _ _ _ _
  wfp := wf
  segs := hs
  nosusp _ hp' := (fresh_pools_empty hp').2.1
  q := ⟨List.nodup_nil, fun _ hr => nomatch hr⟩
  rs _ hr := nomatch hr
  over := ho
  caps p hp' := by
    obtain ⟨x, hx, rfl⟩ := List.mem_map.mp hp'
    exact hc x hx
  single _ hp' _ hc' := nomatch (fresh_pools_empty hp').1 ▸ hc'

theorem Overbook.fresh_run (cfg : Cfg) (store : Store) (pipes : Array PipeInfo) (caps : List (Nat × Nat)) (arrivals : List (List Nat))
    (ho : cfg.overcommit = true) (hc : ∀ c ∈ caps, 0 < c.2)
    (wf : (freshWorld cfg store pipes caps).WFP) (hs : (freshWorld cfg store pipes caps).SegsOK) :
    ∃ w' st' res', Overbook.loop (freshWorld cfg store pipes caps) {} [] arrivals = .ok (w', st', res') ∧ Overbook.OBInv w' st' res' :=
  Overbook.run_never_raises arrivals _ {} [] (Overbook.fresh_inv cfg store pipes caps ho hc wf hs)

end Eudoxia
