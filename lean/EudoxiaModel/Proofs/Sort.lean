import EudoxiaModel.Model.Sort
/-! The descending insertion sort returns a permutation that is sorted (C11).  That it is stable is true by
    construction and not stated. -/
namespace Eudoxia.SortP

variable {α : Type} (ge : α → α → Bool)

theorem insertDesc_perm (x : α) (l : List α) : (insertDesc ge x l).Perm (x :: l) := by
  induction l with
  | nil => simp [insertDesc]
  | cons y ys ih =>
    unfold insertDesc
    split
    · exact (List.Perm.cons y ih).trans (List.Perm.swap x y ys)
    · exact List.Perm.refl _

theorem foldl_insert_perm (l acc : List α) : (l.foldl (fun acc x => insertDesc ge x acc) acc).Perm (l ++ acc) := by
  induction l generalizing acc with
  | nil => simp
  | cons x xs ih =>
    simp only [List.foldl_cons]
    refine (ih _).trans ?_
    have := insertDesc_perm ge x acc
    exact (List.Perm.append_left xs this).trans (by simp)

theorem sortDesc_perm (l : List α) : (sortDesc ge l).Perm l := by
  simpa [sortDesc] using foldl_insert_perm ge l []

/-- the comparison need only be transitive through elements satisfying `P` (for the OOM score: positive allocation) -/
theorem insertDesc_sorted_on (P : α → Prop) (total : ∀ a b, ge a b = true ∨ ge b a = true)
    (trans : ∀ a b c, P b → ge a b = true → ge b c = true → ge a c = true) (x : α) (l : List α)
    (hP : ∀ a ∈ l, P a) (h : l.Pairwise (fun a b => ge a b = true)) :
    (insertDesc ge x l).Pairwise (fun a b => ge a b = true) := by
  induction l with
  | nil => simp [insertDesc]
  | cons y ys ih =>
    rw [List.pairwise_cons] at h
    unfold insertDesc
    split
    · rename_i hyx
      refine List.pairwise_cons.mpr ⟨fun z hz => ?_, ih (fun a ha => hP a (List.mem_cons_of_mem _ ha)) h.2⟩
      rcases List.mem_cons.mp ((insertDesc_perm ge x ys).subset hz) with rfl | hz'
      · exact hyx
      · exact h.1 z hz'
    · rename_i hyx
      have hxy : ge x y = true := (total y x).resolve_left hyx
      refine List.pairwise_cons.mpr ⟨List.forall_mem_cons.mpr ⟨hxy, fun z hz => ?_⟩, List.pairwise_cons.mpr h⟩
      exact trans x y z (hP y List.mem_cons_self) hxy (h.1 z hz)

theorem foldl_insert_sorted_on (P : α → Prop) (total : ∀ a b, ge a b = true ∨ ge b a = true)
    (trans : ∀ a b c, P b → ge a b = true → ge b c = true → ge a c = true) (l acc : List α)
    (hl : ∀ a ∈ l, P a) (hacc : ∀ a ∈ acc, P a) (h : acc.Pairwise (fun a b => ge a b = true)) :
    (l.foldl (fun acc x => insertDesc ge x acc) acc).Pairwise (fun a b => ge a b = true) := by
  induction l generalizing acc with
  | nil => simpa
  | cons x xs ih =>
    apply ih _ (fun a ha => hl a (by simp [ha]))
    · intro a ha
      rcases List.mem_cons.mp ((insertDesc_perm ge x acc).subset ha) with rfl | h'
      · exact hl _ List.mem_cons_self
      · exact hacc a h'
    · exact insertDesc_sorted_on ge P total trans x acc hacc h

theorem sortDesc_sorted_on (P : α → Prop) (total : ∀ a b, ge a b = true ∨ ge b a = true)
    (trans : ∀ a b c, P b → ge a b = true → ge b c = true → ge a c = true) (l : List α) (hl : ∀ a ∈ l, P a) :
    (sortDesc ge l).Pairwise (fun a b => ge a b = true) :=
  foldl_insert_sorted_on ge P total trans l [] hl (by simp) List.Pairwise.nil

theorem insertDesc_sorted (total : ∀ a b, ge a b = true ∨ ge b a = true) (trans : ∀ a b c, ge a b = true → ge b c = true → ge a c = true) (x : α) (l : List α) (h : l.Pairwise (fun a b => ge a b = true)) :
    (insertDesc ge x l).Pairwise (fun a b => ge a b = true) :=
  insertDesc_sorted_on ge (fun _ => True) total (fun a b c _ => trans a b c) x l (fun _ _ => trivial) h

theorem foldl_insert_sorted (total : ∀ a b, ge a b = true ∨ ge b a = true) (trans : ∀ a b c, ge a b = true → ge b c = true → ge a c = true) (l acc : List α) (h : acc.Pairwise (fun a b => ge a b = true)) :
    (l.foldl (fun acc x => insertDesc ge x acc) acc).Pairwise (fun a b => ge a b = true) :=
  foldl_insert_sorted_on ge (fun _ => True) total (fun a b c _ => trans a b c) l acc (fun _ _ => trivial) (fun _ _ => trivial) h

theorem sortDesc_sorted (total : ∀ a b, ge a b = true ∨ ge b a = true) (trans : ∀ a b c, ge a b = true → ge b c = true → ge a c = true) (l : List α) : (sortDesc ge l).Pairwise (fun a b => ge a b = true) :=
  foldl_insert_sorted ge total trans l [] List.Pairwise.nil

theorem pairwise_take_drop {R : α → α → Prop} {l : List α} (h : l.Pairwise R) (k : Nat) : ∀ v ∈ l.take k, ∀ s ∈ l.drop k, R v s := by
  rw [← List.take_append_drop k l] at h
  exact (List.pairwise_append.mp h).2.2

/-- C11 for a comparison that is transitive everywhere: if victims are a prefix of the sorted order, no survivor has a strictly higher score -/
theorem prefix_victims_top (total : ∀ a b, ge a b = true ∨ ge b a = true) (trans : ∀ a b c, ge a b = true → ge b c = true → ge a c = true) (l : List α) (k : Nat) (v w : α)
    (hv : v ∈ (sortDesc ge l).take k) (hw : w ∈ (sortDesc ge l).drop k) : ge v w = true :=
  pairwise_take_drop (sortDesc_sorted ge total trans l) k v hv w hw

end Eudoxia.SortP
