import EudoxiaModel.Model.Sched.Priority
import EudoxiaModel.Proofs.Lists
/-! The round-robin scan for suspendable containers (`prSuspend`), by one invariant lemma.  The property theorems are in `Props/C12.lean`. -/
namespace Eudoxia.Preempt
open Eudoxia Eudoxia.Prio OpState Extracted

theorem dropWhile_head_false {α} {p : α → Bool} {l : List α} {c : α} {more : List α} (h : l.dropWhile p = c :: more) :
    p c = false ∧ (c :: more) <:+ l := by
  induction l with
  | nil => simp at h
  | cons x xs ih =>
    rw [List.dropWhile_cons] at h
    split at h
    · obtain ⟨h1, h2⟩ := ih h
      exact ⟨h1, List.IsSuffix.trans h2 (List.suffix_cons _ _)⟩
    · rename_i hx
      cases h
      exact ⟨by simpa using hx, List.suffix_refl _⟩

theorem getD_set_suffix (iters pools : List (List Ctr)) (pid : Nat) (more : List Ctr)
    (h : ∀ i, iters.getD i [] <:+ pools.getD i []) (hm : more <:+ iters.getD pid []) :
    ∀ i, (iters.set pid more).getD i [] <:+ pools.getD i [] := by
  intro i
  rw [getD_set]
  split
  · rename_i e; rw [e.1]; exact hm.trans (h pid)
  · exact h i

/-- the scan, by invariant: `I` speaks of what is left to scan in each pool (`iters`) and of the requests made so far (`acc`) -/
theorem prSuspend_go_inv {need n : Nat} {I : List (List Ctr) → List (Nat × Nat) → Prop}
    (hskip : ∀ iters acc pid v, v <:+ iters.getD pid [] → I iters acc → I (iters.set pid v) acc)
    (hpick : ∀ iters acc pid c more, (c :: more) <:+ iters.getD pid [] → c.prio ≠ prioQuery → c.canSuspend = true → I iters acc →
      I (iters.set pid more) (acc ++ [(pid, c.cid)])) :
    ∀ (fuel : Nat) (iters : List (List Ctr)) (exh : List Bool) (pid cnt : Nat) (acc : List (Nat × Nat)), I iters acc → acc.length = cnt → cnt ≤ need →
      (∃ iters', I iters' (prSuspend.go need n fuel iters exh pid cnt acc)) ∧ (prSuspend.go need n fuel iters exh pid cnt acc).length ≤ need := by
  intro fuel
  induction fuel with
  | zero => intro iters exh pid cnt acc h hl hc; simp only [prSuspend.go]; exact ⟨⟨iters, h⟩, by omega⟩
  | succ fuel ih =>
    intro iters exh pid cnt acc h hl hc
    -- name the result, so that the case analysis walks through the body of `go` once
    generalize hg : prSuspend.go need n (fuel + 1) iters exh pid cnt acc = out
    rw [prSuspend.go] at hg
    by_cases hfull : cnt ≥ need
    · rw [if_pos hfull] at hg
      exact hg ▸ ⟨⟨iters, h⟩, by omega⟩
    rw [if_neg hfull] at hg
    by_cases hexh : exh.all id = true
    · rw [if_pos hexh] at hg
      exact hg ▸ ⟨⟨iters, h⟩, by omega⟩
    rw [if_neg hexh] at hg
    simp only at hg
    split at hg
    · exact hg ▸ ih _ _ _ _ _ (hskip _ _ _ _ List.nil_suffix h) hl hc
    · rename_i c more hdw
      obtain ⟨hq, hsuf⟩ := dropWhile_head_false hdw
      by_cases hcs : c.canSuspend = true
      · rw [if_pos hcs] at hg
        exact hg ▸ ih _ _ _ _ _ (hpick _ _ _ _ _ hsuf (by simpa using hq) hcs h) (by simp [hl]) (by omega)
      · rw [if_neg hcs] at hg
        exact hg ▸ ih _ _ _ _ _ (hskip _ _ _ _ ((List.suffix_cons c more).trans hsuf) h) hl hc

def Preemptible (pools : List (List Ctr)) (x : Nat × Nat) : Prop :=
  ∃ c ∈ pools.getD x.1 [], c.cid = x.2 ∧ c.prio ≠ prioQuery ∧ c.canSuspend = true

theorem prSuspend_spec (pools : List (List Ctr)) (need : Nat) :
    (∀ x ∈ prSuspend pools need, Preemptible pools x) ∧ (prSuspend pools need).length ≤ need := by
  unfold prSuspend
  simp only
  split
  · simp
  · obtain ⟨⟨_, _, h⟩, hl⟩ := prSuspend_go_inv (need := need) (n := pools.length)
      (I := fun iters acc => (∀ i, iters.getD i [] <:+ pools.getD i []) ∧ ∀ x ∈ acc, Preemptible pools x)
      (fun iters acc pid v hv h => ⟨getD_set_suffix _ _ _ _ h.1 hv, h.2⟩)
      (fun iters acc pid c more hs hq hc h => ⟨getD_set_suffix _ _ _ _ h.1 ((List.suffix_cons c more).trans hs), fun x hx =>
        (List.mem_append.mp hx).elim (h.2 x) fun hx => by
          rw [List.mem_singleton.mp hx]
          exact ⟨c, (h.1 pid).subset (hs.subset List.mem_cons_self), rfl, hq, hc⟩⟩)
      _ pools _ 0 0 [] ⟨fun i => List.suffix_refl _, by simp⟩ rfl (Nat.zero_le _)
    exact ⟨h, hl⟩

structure NoRepeat (pools iters : List (List Ctr)) (acc : List (Nat × Nat)) : Prop where
  suffix : ∀ i, iters.getD i [] <:+ pools.getD i []
  nd : acc.Nodup
  past : ∀ x ∈ acc, x.2 ∉ (iters.getD x.1 []).map (·.cid)

theorem NoRepeat.skip {pools iters : List (List Ctr)} {acc : List (Nat × Nat)} (pid : Nat) {v : List Ctr} (hv : v <:+ iters.getD pid [])
    (h : NoRepeat pools iters acc) : NoRepeat pools (iters.set pid v) acc := by
  refine ⟨getD_set_suffix _ _ _ _ h.suffix hv, h.nd, fun x hx => ?_⟩
  rw [getD_set]
  split
  · rename_i e
    intro hin
    apply h.past x hx
    rw [e.1]
    exact (List.Sublist.map _ hv.sublist).subset hin
  · exact h.past x hx

theorem NoRepeat.pick {pools iters : List (List Ctr)} {acc : List (Nat × Nat)} (hcn : ∀ i, ((pools.getD i []).map (·.cid)).Nodup) {pid : Nat} {c : Ctr}
    {more : List Ctr} (hcm : (c :: more) <:+ iters.getD pid []) (h : NoRepeat pools iters acc) : NoRepeat pools (iters.set pid more) (acc ++ [(pid, c.cid)]) := by
  obtain ⟨k1, _, k2⟩ := h.skip pid ((List.suffix_cons c more).trans hcm)
  obtain ⟨hsuf, hnd, hpast⟩ := h
  have hcin : c.cid ∈ (iters.getD pid []).map (·.cid) := (List.Sublist.map _ hcm.sublist).subset (by simp)
  refine ⟨k1, List.nodup_append.mpr ⟨hnd, by simp, fun a ha b hb e => ?_⟩, fun x hx => ?_⟩
  · rw [List.mem_singleton.mp hb] at e
    subst e
    exact hpast _ ha hcin
  · rcases List.mem_append.mp hx with hx | hx
    · exact k2 x hx
    · rw [List.mem_singleton.mp hx]
      -- the iterator of `pid` holds `c`, so `pid` is a pool (beyond the end `getD` yields `[]`)
      have hlt : pid < iters.length := by
        apply Decidable.byContradiction
        intro hge
        rw [List.getD_eq_getElem?_getD, List.getElem?_eq_none (by omega)] at hcm
        simp at hcm
      simp only
      rw [getD_set, if_pos ⟨rfl, hlt⟩]
      exact (List.nodup_cons.mp ((List.Sublist.map _ (hcm.trans (hsuf pid)).sublist).nodup (hcn pid))).1

theorem prSuspend_nodup (pools : List (List Ctr)) (need : Nat) (hcn : ∀ i, ((pools.getD i []).map (·.cid)).Nodup) : (prSuspend pools need).Nodup := by
  unfold prSuspend
  simp only
  split
  · exact List.nodup_nil
  · obtain ⟨⟨_, R⟩, _⟩ := prSuspend_go_inv (need := need) (n := pools.length) (I := NoRepeat pools) (fun _ _ pid _ hv h => h.skip pid hv)
      (fun _ _ _ _ _ hcm _ _ h => h.pick hcn hcm) _ pools _ 0 0 [] ⟨fun i => List.suffix_refl _, List.nodup_nil, fun _ hx => nomatch hx⟩ rfl (Nat.zero_le _)
    exact R.nd

end Eudoxia.Preempt
