import EudoxiaModel.Proofs.Phases
/-! Effect discipline: operator states change only through accepted `transition`s (`Steps`);
    status-level invariants are proved for one transition and lifted through `Steps`. -/
namespace Eudoxia
open Extracted OpState

theorem stOf_setSt_ne (s : Store) (r r' : Nat) (t : OpState) (h : r ≠ r') :
    (s.setSt r t).stOf r' = s.stOf r' := by
  simp [Store.setSt, Store.stOf, Array.getD_eq_getD_getElem?, h]

theorem stOf_setSt_eq (s : Store) (r : Nat) (t : OpState) (h : r < s.st.size) :
    (s.setSt r t).stOf r = t := by
  simp [Store.setSt, Store.stOf, Array.getD_eq_getD_getElem?, h]

theorem stOf_setSt_oob (s : Store) (r r' : Nat) (t : OpState) (h : ¬ r < s.st.size) :
    (s.setSt r t).stOf r' = s.stOf r' := by
  simp only [Store.setSt, Store.stOf]
  rw [Array.setIfInBounds_eq_of_size_le (by omega)]

@[simp] theorem setSt_ops (s : Store) (r : Nat) (t : OpState) : (s.setSt r t).ops = s.ops := rfl

theorem transition_ok {s s' : Store} {r : Nat} {t : OpState} (h : s.transition r t = .ok s') :
    t ∈ validNext (s.stOf r) ∧
    (t = running → ∀ p ∈ s.parentsOf r, s.stOf p = completed) ∧
    s' = s.setSt r t ∧ r < s.st.size := by
  obtain ⟨hc, rfl⟩ := transition_ok_iff.mp h
  unfold Store.check at hc
  by_cases h1 : r < s.st.size
  case neg => simp [h1] at hc
  by_cases h2 : t ∈ validNext (s.stOf r)
  case neg => simp [h1, h2] at hc
  refine ⟨h2, fun ht p hp => ?_, rfl, h1⟩
  subst ht
  simp [h1, h2] at hc
  exact hc p hp

/-- C02: an accepted request is one the transition table allows.  (A refused one returns an error and no store:
    there is nothing it could have changed.) -/
theorem transition_accepted_valid {s s' : Store} {r : Nat} {t : OpState} (h : s.transition r t = .ok s') :
    t ∈ validNext (s.stOf r) := (transition_ok h).1

theorem transition_other {s s' : Store} {r r' : Nat} {t : OpState} (h : s.transition r t = .ok s') (hne : r ≠ r') :
    s'.stOf r' = s.stOf r' := by
  obtain ⟨_, _, rfl, _⟩ := transition_ok h
  exact stOf_setSt_ne s r r' t hne

theorem transition_ops {s s' : Store} {r : Nat} {t : OpState} (h : s.transition r t = .ok s') : s'.ops = s.ops := by
  obtain ⟨_, _, rfl, _⟩ := transition_ok h; rfl

theorem transition_size {s s' : Store} {r : Nat} {t : OpState} (h : s.transition r t = .ok s') : s'.st.size = s.st.size := by
  obtain ⟨_, _, rfl, _⟩ := transition_ok h; simp [Store.setSt]

theorem transition_self {s s' : Store} {r : Nat} {t : OpState} (h : s.transition r t = .ok s') (hb : r < s.st.size) :
    s'.stOf r = t := by
  obtain ⟨_, _, rfl, _⟩ := transition_ok h
  exact stOf_setSt_eq s r t hb

theorem accepted_valid {s s' : Store} {r : Nat} {t : OpState} (h : s.transition r t = .ok s') :
    t ∈ validNext (s.stOf r) ∧ (t = running → ∀ p ∈ s.parentsOf r, s.stOf p = completed) ∧
    s'.stOf r = t ∧ ∀ r', r' ≠ r → s'.stOf r' = s.stOf r' := by
  obtain ⟨h1, h2, _, hb⟩ := transition_ok h
  exact ⟨h1, h2, transition_self h hb, fun r' hne => transition_other h (Ne.symm hne)⟩

inductive Steps : Store → Store → Prop
  | refl (w) : Steps w w
  | step {w w1 w2 : Store} (r : Nat) (t : OpState) : w.transition r t = .ok w1 → Steps w1 w2 → Steps w w2

theorem Steps.trans {a b c : Store} (h1 : Steps a b) (h2 : Steps b c) : Steps a c := by
  induction h1 with
  | refl => exact h2
  | step r t h _ ih => exact .step r t h (ih h2)

theorem Steps.single {w w1 : Store} {r : Nat} {t : OpState} (h : w.transition r t = .ok w1) : Steps w w1 :=
  .step r t h (.refl _)

theorem Steps.ops {s s' : Store} (h : Steps s s') : s'.ops = s.ops := by
  induction h with
  | refl => rfl
  | step r t h1 _ ih => rw [ih, transition_ops h1]

theorem Steps.size {s s' : Store} (h : Steps s s') : s'.st.size = s.st.size := by
  induction h with
  | refl => rfl
  | step r t h1 _ ih => rw [ih, transition_size h1]

theorem completed_final_step {s s' : Store} {r r' : Nat} {t : OpState}
    (h : s.transition r' t = .ok s') (hc : s.stOf r = completed) : s'.stOf r = completed := by
  by_cases hne : r' = r
  · subst hne
    have hv := (transition_ok h).1
    rw [hc, show validNext completed = [] by decide] at hv
    cases hv
  · rw [transition_other h hne]; exact hc

theorem completed_final {s s' : Store} (h : Steps s s') (r : Nat) (hc : s.stOf r = completed) :
    s'.stOf r = completed := by
  induction h with
  | refl => exact hc
  | step r' t h1 _ ih => exact ih (completed_final_step h1 hc)

/-- C01, state form: running or completed ⇒ all parents completed -/
def ParentsInv (s : Store) : Prop :=
  ∀ r, (s.stOf r = running ∨ s.stOf r = completed) → ∀ p ∈ s.parentsOf r, s.stOf p = completed

theorem parentsInv_step {s s' : Store} {r : Nat} {t : OpState}
    (h : s.transition r t = .ok s') (inv : ParentsInv s) : ParentsInv s' := by
  intro x hx p hp
  rw [show s'.parentsOf x = s.parentsOf x by simp [Store.parentsOf, transition_ops h]] at hp
  obtain ⟨hv, hrun, _, hb⟩ := transition_ok h
  -- the parents were completed before the step, and completion is final
  refine completed_final_step h ?_
  by_cases hxr : r = x
  · subst hxr
    rw [transition_self h hb] at hx
    rcases hx with ht | ht
    · exact hrun ht p hp
    · subst ht
      have key : ∀ y : OpState, completed ∈ validNext y → y = running := by
        intro y; cases y <;> decide
      exact inv r (Or.inl (key _ hv)) p hp
  · rw [transition_other h hxr] at hx
    exact inv x hx p hp

theorem parentsInv_steps {s s' : Store} (h : Steps s s') (inv : ParentsInv s) : ParentsInv s' := by
  induction h with
  | refl => exact inv
  | step r t h1 _ ih => exact ih (parentsInv_step h1 inv)

theorem transAll_steps {t : OpState} {l : List Nat} {w w' : Store} (h : w.transAll t l = .ok w') : Steps w w' := by
  induction l generalizing w with
  | nil => rw [transAll_nil_ok.mp h]; exact .refl _
  | cons r rs ih =>
    obtain ⟨w1, h1, hr⟩ := transAll_cons_ok.mp h
    exact (Steps.single h1).trans (ih hr)

theorem transAll_stOf {t : OpState} {l : List Nat} {w w' : Store} (h : w.transAll t l = .ok w') :
    (∀ r ∈ l, w'.stOf r = t) ∧ ∀ r, r ∉ l → w'.stOf r = w.stOf r := by
  induction l generalizing w with
  | nil => rw [transAll_nil_ok.mp h]; exact ⟨fun _ hr => absurd hr List.not_mem_nil, fun _ _ => rfl⟩
  | cons x xs ih =>
    obtain ⟨w1, h1, hr⟩ := transAll_cons_ok.mp h
    obtain ⟨iin, iout⟩ := ih hr
    refine ⟨fun r hmem => ?_, fun r hmem => ?_⟩
    · by_cases hxs : r ∈ xs
      · exact iin r hxs
      · -- set by the first transition and not touched again
        obtain rfl : r = x := (List.mem_cons.mp hmem).resolve_right hxs
        rw [iout r hxs, transition_self h1 (transition_ok h1).2.2.2]
    · rw [iout r (fun hxs => hmem (List.mem_cons_of_mem _ hxs)), transition_other h1 (fun e => hmem (e ▸ List.mem_cons_self))]

theorem assignOps_steps {l : List Nat} {w w' : Store} (h : assignOps w l = .ok w') : Steps w w' := by
  induction l generalizing w with
  | nil => cases h; exact .refl _
  | cons r rs ih =>
    obtain ⟨w1, h1, hr⟩ := assignOps_cons_ok.mp h
    exact (Steps.single h1).trans (ih hr)

theorem assignOps_steps_err {l : List Nat} {w w' : Store} {e : Err} (h : assignOps w l = .error (e, w')) : Steps w w' := by
  induction l generalizing w with
  | nil => cases h
  | cons r rs ih =>
    rcases assignOps_cons_err.mp h with ⟨_, rfl⟩ | ⟨w1, h1, hr⟩
    · exact .refl _
    · exact (Steps.single h1).trans (ih hr)

end Eudoxia
