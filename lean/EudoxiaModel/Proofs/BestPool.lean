import EudoxiaModel.Model.Sched.Priority
/-! Helper lemmas about `bestPool` (`get_pool_with_max_avail_ram`): the pool it picks is open and has the most free RAM among the pools with a free CPU.
    Kept in the namespace of the property they serve; the property theorems are in `Props/C12.lean`. -/
namespace Eudoxia.C12
open Eudoxia Eudoxia.Prio OpState Extracted

def Snap.isOpen (s : Snap) : Prop := 0 < s.availC ∧ 0 < s.availR

theorem go_some (l : List Snap) : ∀ (i b : Nat) (m : Int), bestPool.go i l (some b) m ≠ none := by
  induction l with
  | nil => intro i b m; simp [bestPool.go]
  | cons s rest ih => intro i b m; unfold bestPool.go; split <;> exact ih _ _ _

theorem go_none (l : List Snap) : ∀ (i : Nat), bestPool.go i l none 0 = none ↔ ∀ s ∈ l, ¬ Snap.isOpen s := by
  induction l with
  | nil => intro i; simp [bestPool.go]
  | cons s rest ih =>
    intro i
    unfold bestPool.go
    split
    · rename_i h
      simp only [Bool.and_eq_true, decide_eq_true_eq] at h
      constructor
      · intro e; exact absurd e (go_some _ _ _ _)
      · intro hn; exact absurd (⟨h.1, h.2⟩ : Snap.isOpen s) (hn s (by simp))
    · rename_i h
      simp only [Bool.and_eq_true, decide_eq_true_eq, not_and] at h
      rw [ih]
      constructor
      · intro hn x hx
        rcases List.mem_cons.mp hx with rfl | hx
        · intro ho; exact h ho.1 ho.2
        · exact hn x hx
      · intro hn x hx; exact hn x (List.mem_cons_of_mem _ hx)

/-- work conservation, at the level of the pool choice -/
theorem bestPool_none_iff (sn : List Snap) : bestPool sn = none ↔ ∀ s ∈ sn, ¬ Snap.isOpen s := go_none sn 0

theorem go_cases (l : List Snap) : ∀ (i : Nat) (best : Option Nat) (m : Int) (p : Nat), bestPool.go i l best m = some p →
    (best = some p ∧ ∀ s ∈ l, s.availC > 0 → s.availR ≤ m) ∨
    ∃ k s, p = i + k ∧ l[k]? = some s ∧ 0 < s.availC ∧ m < s.availR ∧ ∀ s' ∈ l, s'.availC > 0 → s'.availR ≤ s.availR := by
  induction l with
  | nil => intro i best m p h; exact .inl ⟨h, fun _ h => nomatch h⟩
  | cons s rest ih =>
    intro i best m p h
    unfold bestPool.go at h
    split at h
    · rename_i hc
      simp only [Bool.and_eq_true, decide_eq_true_eq] at hc
      rcases ih _ _ _ _ h with ⟨hb, hmax⟩ | ⟨k, s', rfl, hk, h1, h2, hmax⟩
      · cases hb
        refine .inr ⟨0, s, rfl, rfl, hc.1, hc.2, fun x hx hc' => ?_⟩
        rcases List.mem_cons.mp hx with rfl | hx
        · exact Int.le_refl _
        · exact hmax x hx hc'
      · refine .inr ⟨k + 1, s', by omega, hk, h1, by omega, fun x hx hc' => ?_⟩
        rcases List.mem_cons.mp hx with rfl | hx
        · omega
        · exact hmax x hx hc'
    · rename_i hc
      simp only [Bool.and_eq_true, decide_eq_true_eq, not_and, Int.not_lt] at hc
      have hs : ∀ x ∈ s :: rest, ∀ (t : Int), m ≤ t → (∀ y ∈ rest, y.availC > 0 → y.availR ≤ t) → x.availC > 0 → x.availR ≤ t := by
        intro x hx t ht hr hc'
        rcases List.mem_cons.mp hx with rfl | hx
        · exact Int.le_trans (hc hc') ht
        · exact hr x hx hc'
      rcases ih _ _ _ _ h with ⟨hb, hmax⟩ | ⟨k, s', rfl, hk, h1, h2, hmax⟩
      · exact .inl ⟨hb, fun x hx => hs x hx m (Int.le_refl _) hmax⟩
      · exact .inr ⟨k + 1, s', by omega, hk, h1, h2, fun x hx => hs x hx _ (Int.le_of_lt h2) hmax⟩

theorem bestPool_spec (sn : List Snap) (p : Nat) (h : bestPool sn = some p) :
    p < sn.length ∧ Snap.isOpen (sn.getD p default) ∧ ∀ s ∈ sn, s.availC > 0 → s.availR ≤ (sn.getD p default).availR := by
  rcases go_cases sn 0 none 0 p h with ⟨hb, _⟩ | ⟨k, s, rfl, hk, h1, h2, hmax⟩
  · cases hb
  · rw [Nat.zero_add, List.getD_eq_getElem?_getD, hk]
    exact ⟨(List.getElem?_eq_some_iff.mp hk).1, ⟨h1, h2⟩, hmax⟩

end Eudoxia.C12
