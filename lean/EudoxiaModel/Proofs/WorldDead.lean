import EudoxiaModel.Proofs.WorldDeadSusp
/-! The executor tick without suspension requests and without write-outs in progress, as the schedulers that never suspend see it: the special case of
    `execTick_finS` (WorldDeadSusp.lean) in which no container can come out of a write-out. -/
namespace Eudoxia
open OpState Extracted

def World.FinOK (w : World) : Prop := ∀ p ∈ w.pools, p.suspending = [] ∧ ∀ c ∈ p.active, Fin w.store c

theorem fresh_world_finOK (cfg : Cfg) (store : Store) (pipes : Array PipeInfo) (caps : List (Nat × Nat)) :
    World.FinOK { cfg := cfg, store := store, pools := caps.map (fun c => Pool.fresh c.1 c.2), pipes := pipes } := by
  intro p hp
  obtain ⟨x, _, rfl⟩ := List.mem_map.mp hp
  exact ⟨rfl, fun c hc => nomatch hc⟩

theorem execTick_fin (w0 w1 : World) (asgs : List Asg) (hr : WorldReady w0) (hb : Built w0 asgs w1)
    (hseg : ∀ a ∈ asgs, ∀ r ∈ a.ops, w0.store.segsOf r ≠ []) (hpar : ∀ a ∈ asgs, ParentsOK w1.store a.ops) (hf : w0.FinOK)
    {w2 : World} {res : List Res} (hx : w1.execTick [] asgs = .ok (w2, res)) :
    w2.FinOK ∧ ∃ cs, res = cs.map mkRes ∧ (∀ c ∈ cs, Fin w2.store c ∧ c.completed = true) ∧ (allUnf cs).Nodup ∧
      ∀ o ∈ allUnf cs, Busy (w1.store.stOf o) := by
  -- with no write-out in progress and none requested, no container can have come out of one
  have hnone : ∀ c, ¬ w1.WroteFrom [] c := by
    rintro c ⟨c0, ⟨q, hq, h | ⟨_, h⟩⟩, _⟩
    · rw [hb.pools] at hq
      rw [(hf q hq).1] at h
      cases h
    · cases h
  obtain ⟨cs, js, T⟩ := execTick_finS (sus := []) hr hb hseg hpar (fun _ => List.nodup_nil)
    (fun p hp c hc => by rw [(hf p hp).1, List.append_nil] at hc; exact (hf p hp).2 c hc) hx
  obtain rfl : js = [] := List.eq_nil_iff_forall_not_mem.mpr (fun c hc => hnone c (T.parked c hc).2.2.2.1)
  exact ⟨fun p hp => ⟨List.eq_nil_iff_forall_not_mem.mpr (fun c hc => hnone c (T.wrote p hp c hc)), fun c hc => T.fin p hp c (List.mem_append_left _ hc)⟩,
    cs, T.res, T.ended, by simpa [allUnf] using T.nd, fun o ho => T.busy o (List.mem_append_left _ ho)⟩

end Eudoxia
