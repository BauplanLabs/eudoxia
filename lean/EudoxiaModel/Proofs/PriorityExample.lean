import EudoxiaModel.Proofs.FreshWorlds
import EudoxiaModel.Proofs.NaiveExample
/-! The concrete world of `NaiveExample` (a diamond DAG, two pools, nothing started), with single-operator containers, meets every hypothesis of the
    priority closed-loop theorem. -/
namespace Eudoxia.PriorityExample
open Eudoxia OpState Extracted

theorem inv : Prio.PRInv (NaiveExample.world false) {} [] :=
  Prio.fresh_inv_single (NaiveExample.world false).cfg NaiveExample.store (NaiveExample.world false).pipes [(4, 64 * 8), (4, 64 * 8)] rfl rfl (by decide)
    (NaiveExample.wfp false) (NaiveExample.segsOK false) (NaiveExample.naiveInv false).pid

theorem runs (arrivals : List (List Nat)) (h : ∀ newP ∈ arrivals, newP.Nodup) : ∃ out, Prio.loop (NaiveExample.world false) {} [] arrivals = .ok out :=
  let ⟨w', st', res', h', _⟩ := Prio.run_single_never_raises arrivals _ _ _ h inv; ⟨(w', st', res'), h'⟩

end Eudoxia.PriorityExample
