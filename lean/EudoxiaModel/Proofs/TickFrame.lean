import EudoxiaModel.Proofs.WorldLive
/-! What an executor tick leaves alone: operators that no pool owns and no assignment of the tick names keep their state; and some facts about the
    containers of a ready world. -/
namespace Eudoxia
open OpState Extracted

theorem execPools_frame {cfg : Cfg} {sus : List (Nat × Nat)} {asgs : List Asg}
    {s : Store} {n : Nat} {done todo : List Pool} {res : List Res} {s' : Store} {ps : List Pool} {n' : Nat} {res' : List Res}
    (h : execPools cfg sus asgs s n done todo res = .ok (s', ps, n', res')) (hJ : PoolsLive cfg asgs s n done todo) :
    ∀ o, o ∉ todo.flatMap ownP ++ opsOf (pendFor asgs done.length) → s'.stOf o = s.stOf o := by
  induction h using execPools_induct with
  | nil => exact fun _ _ => rfl
  | step _ hpt _ ih =>
    intro o ho
    obtain ⟨gp, lp⟩ := hJ.pools _ (List.mem_append_right _ List.mem_cons_self)
    obtain ⟨hnd, haok, _⟩ := poolsLive_head (sus := sus) hJ
    obtain ⟨_, _, fr⟩ := poolTick_live gp lp haok hnd hpt
    obtain ⟨h1, h2⟩ := not_mem_todo_split ho
    rw [← fr o h1]
    exact ih (poolsLive_step hJ hpt).1 o (by rw [List.length_append, List.length_singleton]; exact h2)

theorem execTick_frame {w1 w2 : World} {sus : List (Nat × Nat)} {asgs : List Asg} {res : List Res}
    (hJ : PoolsLive w1.cfg asgs w1.store w1.nextCid [] w1.pools) (hx : w1.execTick sus asgs = .ok (w2, res)) :
    ∀ o, o ∉ w1.pools.flatMap ownP → o ∉ opsOf asgs → w2.store.stOf o = w1.store.stOf o := by
  obtain ⟨_, _, _, _, _, hexp, rfl⟩ := execTick_ok hx
  intro o h1 h2
  refine execPools_frame hexp hJ o (fun hin => ?_)
  rcases List.mem_append.mp hin with h | h
  · exact h1 h
  · obtain ⟨a, ha, hoa⟩ := List.mem_flatMap.mp h
    exact h2 (List.mem_flatMap.mpr ⟨a, (List.mem_filter.mp ha).1, hoa⟩)

theorem owned_busy {w : World} (hr : WorldReady w) {p : Pool} (hp : p ∈ w.pools) {c : Ctr} (hc : c ∈ p.active ++ p.suspending) :
    ∀ o ∈ c.unfinished, Busy (w.store.stOf o) := by
  obtain ⟨_, lp, _⟩ := hr.pools p hp
  exact lp.busy c hc (lp.nc c hc)

theorem active_unf_ne {w : World} (hr : WorldReady w) {p : Pool} (hp : p ∈ w.pools) {c : Ctr} (hc : c ∈ p.active) : c.unfinished ≠ [] := by
  obtain ⟨_, lp, rf⟩ := hr.pools p hp
  have hn := lp.nc c (List.mem_append_left _ hc)
  have rd := rf.rd.act c hc hn
  exact (rem_ne_nil_iff rd.inv.wf).mp (rd.more hn)

theorem built_owned {w0 w1 : World} {asgs : List Asg} (hr : WorldReady w0) (hb : Built w0 asgs w1) :
    ∀ p ∈ w0.pools, ∀ o ∈ ownP p, Busy (w0.store.stOf o) ∧ o ∉ opsOf asgs := by
  intro p hp o ho
  obtain ⟨c, hc, hoc⟩ := List.mem_flatMap.mp ho
  have hbusy := owned_busy hr hp (List.mem_filter.mp hc).1 o hoc
  exact ⟨hbusy, fun hx => not_busy_of_assignable (hb.assigned o hx).1 hbusy⟩

end Eudoxia
