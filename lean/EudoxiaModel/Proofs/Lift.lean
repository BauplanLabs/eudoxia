import EudoxiaModel.Proofs.Mem
import EudoxiaModel.Proofs.WorldInv
/-! The C03 and C04 pool invariants together (`PoolGoodMem`) are a `PhaseInvariant`, so they hold in every pool of every reachable world. -/
namespace Eudoxia

def PoolGoodMem (cfg : Cfg) (p : Pool) (n : Nat) : Prop := p.Good cfg n ∧ MemOK p

theorem PoolGoodMem.good {cfg : Cfg} {p : Pool} {n : Nat} (g : PoolGoodMem cfg p n) : p.Good cfg n := g.1
theorem PoolGoodMem.mem {cfg : Cfg} {p : Pool} {n : Nat} (g : PoolGoodMem cfg p n) : MemOK p := g.2

theorem susPhase_mem {cfg : Cfg} {w w1 : Store} {p p1 : Pool} {l : List Nat} (m : MemOK p)
    (h : susPhase cfg w p l = .ok (w1, p1)) : MemOK p1 := by
  obtain ⟨p0, hd, hp1⟩ := susPhase_ok h
  obtain ⟨hfr, hsub⟩ := doSuspends_frame hd
  rcases hp1 with rfl | ⟨rfl, rfl⟩
  · -- usage is re-summed over the containers that go on running
    refine ⟨rfl, fun c hc => m.ok c (hsub.subset hc), ?_⟩
    have h1 : p0.capR = p.capR := by rw [hfr]
    have := memSum_sublist hsub
    have := m.sum; have := m.cap
    show memSum p0.active ≤ (p0.capR : Int)
    omega
  · cases hd; exact m

theorem goodMem_phases : PhaseInvariant PoolGoodMem where
  mono g h := ⟨good_phases.mono g.good h, g.mem⟩
  sus g h := ⟨good_phases.sus g.good h, susPhase_mem g.mem h⟩
  start g hg h := ⟨good_phases.start g.good hg h, startAll_mem g.mem h⟩
  startErr g hg h := ⟨good_phases.startErr g.good hg h, startAll_err_mem g.mem h⟩
  run g h := ⟨good_phases.run g.good h, poolRun_mem g.good.inv g.mem h⟩

end Eudoxia
