import EudoxiaModel.Proofs.Conserve
import EudoxiaModel.Proofs.Sort
/-! The pool-level OOM killer: victims are a prefix of the score-sorted candidates, taken only while usage exceeds capacity (C11). -/
namespace Eudoxia
open OpState

/-- how many of the candidates (in the given order) are killed: as long as usage exceeds capacity -/
def nVictims (capR : Nat) : Int → List Ctr → Nat
  | _, [] => 0
  | cons, v :: vs => if cons ≤ capR then 0 else nVictims capR (cons - (v.mem : Int)) vs + 1

theorem nVictims_stop {capR : Nat} {cons : Int} {vs : List Ctr} (h : vs = [] ∨ cons ≤ capR) : nVictims capR cons vs = 0 := by
  rcases h with rfl | h
  · rfl
  · cases vs <;> simp [nVictims, h]

theorem nVictims_kill {capR : Nat} {cons : Int} (h : ¬ cons ≤ capR) (v : Ctr) (vs : List Ctr) :
    nVictims capR cons (v :: vs) = nVictims capR (cons - (v.mem : Int)) vs + 1 := by
  simp [nVictims, h]

theorem nVictims_le (capR : Nat) : ∀ (vs : List Ctr) (cons : Int), nVictims capR cons vs ≤ vs.length := by
  intro vs
  induction vs with
  | nil => intro _; simp [nVictims]
  | cons v vs ih => intro cons; simp only [nVictims, List.length_cons]; split; omega; have := ih (cons - v.mem); omega

/-- **no kill that was not needed**: before each pool-level kill the usage exceeds the capacity -/
theorem kills_are_needed (capR : Nat) : ∀ (vs : List Ctr) (cons : Int) (j : Nat), j < nVictims capR cons vs →
    cons - memSum (vs.take j) > capR := by
  intro vs
  induction vs with
  | nil => intro cons j h; simp [nVictims] at h
  | cons v vs ih =>
    intro cons j h
    simp only [nVictims] at h
    split at h
    · omega
    · cases j with
      | zero => simp; omega
      | succ j =>
        have := ih (cons - v.mem) j (by omega)
        simp only [List.take_succ_cons, memSum_cons]
        omega

/-- **killing stops as soon as the remaining usage fits** -/
theorem stops_once_usage_fits (capR : Nat) : ∀ (vs : List Ctr) (cons : Int),
    nVictims capR cons vs = vs.length ∨ cons - memSum (vs.take (nVictims capR cons vs)) ≤ capR := by
  intro vs
  induction vs with
  | nil => intro _; left; rfl
  | cons v vs ih =>
    intro cons
    simp only [nVictims]
    split
    · right; simp; assumption
    · rcases ih (cons - v.mem) with h | h
      · left; simp [h]
      · right; simp only [List.take_succ_cons, memSum_cons]; omega

theorem killVictims_usage {capR : Nat} {vs act act' : List Ctr} {w w' : Store} {cons cons' : Int}
    (h : killVictims w capR act cons vs = .ok (w', act', cons')) :
    cons' = cons - memSum (vs.take (nVictims capR cons vs)) := by
  induction h using killVictims_induct with
  | stop _ _ _ _ _ hs => simp [nVictims_stop hs]
  | kill _ hgt hk _ ih =>
    rw [ih, (kill_ok hk).2.2, nVictims_kill hgt, List.take_succ_cons, memSum_cons]
    omega

theorem scoreGe_total (a b : Ctr) : scoreGe a b = true ∨ scoreGe b a = true := by
  simp only [scoreGe, decide_eq_true_eq]; exact Nat.le_total _ _

/-- The score `mem² / ram` is compared by cross-multiplication, so a middle container with `ram = 0` is above and below everything:
    transitivity needs its allocation positive. -/
theorem scoreGe_trans (a b c : Ctr) (hb : 0 < b.ram) (h1 : scoreGe a b = true) (h2 : scoreGe b c = true) : scoreGe a c = true := by
  simp only [scoreGe, decide_eq_true_eq, ge_iff_le] at *
  -- h1 : b.mem² · a.ram ≤ a.mem² · b.ram ; h2 : c.mem² · b.ram ≤ b.mem² · c.ram ; goal : c.mem² · a.ram ≤ a.mem² · c.ram
  apply Nat.le_of_mul_le_mul_right _ hb
  calc c.mem * c.mem * a.ram * b.ram = (c.mem * c.mem * b.ram) * a.ram := by rw [Nat.mul_right_comm]
    _ ≤ (b.mem * b.mem * c.ram) * a.ram := Nat.mul_le_mul_right _ h2
    _ = (b.mem * b.mem * a.ram) * c.ram := by rw [Nat.mul_right_comm]
    _ ≤ (a.mem * a.mem * b.ram) * c.ram := Nat.mul_le_mul_right _ h1
    _ = a.mem * a.mem * c.ram * b.ram := by rw [Nat.mul_right_comm]

theorem mem_sortDesc {v : Ctr} {l : List Ctr} (h : v ∈ sortDesc l) : v ∈ l :=
  (SortP.sortDesc_perm scoreGe l).subset h

theorem findCtr_replace (act : List Ctr) (c : Ctr) (k : Nat) :
    findCtr (replaceCtr act c) k = (findCtr act k).map (fun x => if x.cid == c.cid then c else x) := by
  unfold findCtr replaceCtr
  rw [List.find?_map]
  -- replacing keeps the number, so the same container is found
  have : ((fun x : Ctr => x.cid == k) ∘ fun x => if x.cid == c.cid then c else x) = fun x => x.cid == k := by
    funext x
    simp only [Function.comp]
    split
    · rw [← (by simpa using ‹(x.cid == c.cid) = true› : x.cid = c.cid)]
    · rfl
  rw [this]

theorem killedIn_replace (act : List Ctr) (c : Ctr) (hc : c.err = true) (u : Ctr) (hu : (findCtr act u.cid).isSome) :
    killedIn (replaceCtr act c) u = (killedIn act u || (u.cid == c.cid)) := by
  unfold killedIn
  rw [findCtr_replace]
  cases hf : findCtr act u.cid with
  | none => rw [hf] at hu; cases hu
  | some x =>
    have hx : x.cid = u.cid := by simpa using List.find?_some hf
    rw [← hx]
    by_cases h : x.cid = c.cid <;> simp [h, hc]

theorem findCtr_replace_isSome (act : List Ctr) (c : Ctr) (k : Nat) :
    (findCtr (replaceCtr act c) k).isSome = (findCtr act k).isSome := by
  rw [findCtr_replace]; cases findCtr act k <;> rfl

theorem killVictims_marks {capR : Nat} {vs act act' : List Ctr} {w w' : Store} {cons cons' : Int}
    (h : killVictims w capR act cons vs = .ok (w', act', cons')) :
    ∀ u, (findCtr act u.cid).isSome →
      killedIn act' u = (killedIn act u || ((vs.take (nVictims capR cons vs)).map (·.cid)).contains u.cid) := by
  induction h using killVictims_induct with
  | stop _ _ _ _ _ hs => intro u _; simp [nVictims_stop hs]
  | kill _ hgt hk _ ih =>
    intro u hu
    obtain ⟨_, rfl, rfl⟩ := kill_ok hk
    rw [ih u (by rw [findCtr_replace_isSome]; exact hu), killedIn_replace _ _ rfl u hu, nVictims_kill hgt]
    simp only [List.take_succ_cons, List.map_cons, List.contains_cons, Bool.or_assoc]
    rfl

theorem replaceCtr_eq_map (act : List Ctr) (v : Ctr) (hnd : (cids act).Nodup) (hv : v ∈ act) :
    replaceCtr act (killedCtr v) = act.map (fun x => if x.cid == v.cid then killedCtr x else x) := by
  apply List.map_congr_left
  intro x hx
  show (if x.cid == v.cid then killedCtr v else x) = _
  split
  · rw [eq_of_nodup_map hnd hx hv (by simpa using ‹(x.cid == v.cid) = true›)]
  · rfl

theorem map_kill_of_not_mem {v : Ctr} {xs : List Ctr} (h : v.cid ∉ cids xs) :
    xs.map (fun x => if x.cid == v.cid then killedCtr x else x) = xs := by
  conv => rhs; rw [← List.map_id xs]
  apply List.map_congr_left
  intro y hy
  have : y.cid ≠ v.cid := fun e => h (e ▸ List.mem_map_of_mem hy)
  simp [this]

theorem memSum_kill_one (v : Ctr) : ∀ (act : List Ctr), (cids act).Nodup → v ∈ act →
    memSum (act.map (fun x => if x.cid == v.cid then killedCtr x else x)) = memSum act - (v.mem : Int) := by
  intro act
  induction act with
  | nil => intro _ h; cases h
  | cons x xs ih =>
    intro hnd hv
    rw [cids_cons, List.nodup_cons] at hnd
    rw [List.map_cons, memSum_cons, memSum_cons]
    rcases List.mem_cons.mp hv with rfl | hv'
    · rw [map_kill_of_not_mem hnd.1]; simp [killedCtr]; omega
    · have : x.cid ≠ v.cid := fun e => hnd.1 (e ▸ List.mem_map_of_mem hv')
      rw [ih hnd.2 hv']; simp [this]; omega

theorem replaceCtr_killed {act vs : List Ctr} {v : Ctr} (hnd : (cids act).Nodup) (hvnd : (cids (v :: vs)).Nodup)
    (hsub : ∀ u ∈ v :: vs, u ∈ act) :
    (cids (replaceCtr act (killedCtr v))).Nodup ∧ ∀ u ∈ vs, u ∈ replaceCtr act (killedCtr v) := by
  rw [replaceCtr_eq_map act v hnd (hsub v List.mem_cons_self)]
  rw [cids_cons, List.nodup_cons] at hvnd
  constructor
  · have : cids (act.map (fun x => if x.cid == v.cid then killedCtr x else x)) = cids act := by
      unfold cids; rw [List.map_map]; apply List.map_congr_left; intro x _
      simp only [Function.comp]; split <;> rfl
    rw [this]; exact hnd
  · intro u hu
    have hne : u.cid ≠ v.cid := fun e => hvnd.1 (e ▸ List.mem_map_of_mem hu)
    exact List.mem_map.mpr ⟨u, hsub u (List.mem_cons_of_mem _ hu), by simp [hne]⟩

/-- **the killer's second step, as a map** -/
theorem killVictims_act {capR : Nat} {vs act act' : List Ctr} {w w' : Store} {cons cons' : Int}
    (h : killVictims w capR act cons vs = .ok (w', act', cons')) :
    (cids act).Nodup → (cids vs).Nodup → (∀ v ∈ vs, v ∈ act) →
    act' = act.map (fun x => if ((vs.take (nVictims capR cons vs)).map (·.cid)).contains x.cid then killedCtr x else x) ∧
    cons' = cons + (memSum act' - memSum act) := by
  induction h using killVictims_induct with
  | stop _ _ _ _ _ hs => intro _ _ _; simp [nVictims_stop hs]
  | @kill _ act _ v _ _ _ _ _ _ _ _ hgt hk _ ih =>
    intro hnd hvnd hsub
    obtain ⟨_, rfl, rfl⟩ := kill_ok hk
    obtain ⟨hnd1, hsub1⟩ := replaceCtr_killed hnd hvnd hsub
    obtain ⟨i1, i2⟩ := ih hnd1 (List.nodup_cons.mp hvnd).2 hsub1
    have hv := hsub _ List.mem_cons_self
    rw [replaceCtr_eq_map _ _ hnd hv] at i1 i2
    constructor
    · rw [i1, List.map_map, nVictims_kill hgt]
      apply List.map_congr_left
      intro x _
      simp only [Function.comp, List.take_succ_cons, List.map_cons, List.contains_cons]
      by_cases hxv : x.cid == v.cid
      · -- already killed; killing twice is the same
        have hvc : (killedCtr x).cid = x.cid := rfl
        simp only [hxv, ↓reduceIte, hvc, Bool.true_or]
        split <;> rfl
      · simp only [hxv, Bool.false_or]; rfl
    · rw [i2, memSum_kill_one _ _ hnd hv]; omega

end Eudoxia
