import EudoxiaModel.Proofs.Complete
import EudoxiaModel.Proofs.NaiveLoop
import EudoxiaModel.Model.Sched.Overbook
import EudoxiaModel.Model.Sched.Priority
import EudoxiaModel.Proofs.PriorityLoop
/-! Every container the naive, the overbook and the priority-pool scheduler build holds operators of one pipeline. -/
namespace Eudoxia.Naive
open Eudoxia OpState Extracted

/-- **every container the naive scheduler (and the `eudoxia init` starter) builds holds operators of one pipeline** -/
theorem round_inOne (multi : Bool) (w w' : World) (st st' : St) (res : List Res) (newP : List Nat) (dec : Decision)
    (h : round multi w st res newP = .ok (w', st', dec)) : ∀ a ∈ dec.asgs, InOne w.pipes a.ops := by
  have R := round_built (I := fun _ => True) (fun _ _ _ => trivial) h trivial
  intro a ha
  obtain ⟨_, _, wi, pid, S⟩ := R.served a ha
  exact ⟨pid, fun o ho => R.built.pipes ▸ S.pipes ▸ (mem_opsFor (S.ops ▸ ho)).1⟩

end Eudoxia.Naive

namespace Eudoxia.Overbook
open Eudoxia OpState Extracted

def Reg (pipes : Array PipeInfo) (r : Nat) : Prop := ∃ P, r ∈ (pipes.getD P default).order

theorem enqueue_reg (w : World) (pids opq : List Nat) (h : ∀ r ∈ opq, Reg w.pipes r) : ∀ r ∈ enqueue w opq pids, Reg w.pipes r :=
  fun r hr => (mem_enqueue hr).elim (h r) fun ⟨pid, _, hr⟩ => ⟨pid, (mem_getOps.mp hr).1⟩

theorem assign_inOne {fails : List (Nat × Nat)} {w w' : World} {q q' : List Nat} {avail : List Int} {acc out : List Asg}
    (h : assign fails w q avail acc = .ok (w', q', out)) (hq : ∀ r ∈ q, Reg w.pipes r) (hacc : ∀ a ∈ acc, InOne w.pipes a.ops) :
    (∀ a ∈ out, InOne w.pipes a.ops) ∧ (∀ r ∈ q', Reg w.pipes r) ∧ w'.pipes = w.pipes := by
  induction h using assign_induct with
  | nil => exact ⟨hacc, by simp, rfl⟩
  | drop _ _ _ ih => exact ih (fun x hx => hq x (List.mem_cons_of_mem _ hx)) hacc
  | full => exact ⟨hacc, hq, rfl⟩
  | serve _ r _ _ _ _ _ hm _ ih =>
    rw [← mkAssignment_pipes hm] at hq hacc ⊢
    refine ih (fun x hx => hq x (List.mem_cons_of_mem _ hx)) fun b hb => ?_
    rcases List.mem_append.mp hb with hb | hb
    · exact hacc b hb
    · obtain ⟨P, hP⟩ := hq r List.mem_cons_self
      exact ⟨P, fun o ho => by rw [List.mem_singleton.mp hb, List.mem_singleton] at ho; exact ho ▸ hP⟩

/-- **every container overbook builds holds one operator of a registered pipeline**, and its queue keeps holding registered operators only -/
theorem round_inOne (w w' : World) (st st' : St) (res : List Res) (newP : List Nat) (dec : Decision)
    (h : round w st res newP = .ok (w', st', dec)) (hq : ∀ r ∈ st.opq, Reg w.pipes r) :
    (∀ a ∈ dec.asgs, InOne w.pipes a.ops) ∧ (∀ r ∈ st'.opq, Reg w.pipes r) := by
  rcases round_ok h with ⟨_, rfl, rfl⟩ | ⟨pids, _, _, _, hasg, rfl, rfl⟩
  · exact ⟨fun a ha => (by cases ha), hq⟩
  · exact let ⟨i1, i2, _⟩ := assign_inOne hasg (enqueue_reg w pids st.opq hq) (fun a ha => by cases ha); ⟨i1, i2⟩

end Eudoxia.Overbook

namespace Eudoxia.PP
open Eudoxia Eudoxia.Prio OpState Extracted

def JobsOne (pipes : Array PipeInfo) (st : St) : Prop := ∀ j ∈ st.jobs, InOne pipes j.ops

theorem ppEnqueue_inOne (w : World) (st : St) (results : List Res) (newP : List Nat) (st' : St) (h : ppEnqueue w st results newP = .ok st')
    (hj : JobsOne w.pipes st) (hr : ∀ r ∈ results, InOne w.pipes r.ops) : JobsOne w.pipes st' := by
  refine foldlM_inv (fun _ => JobsOne w.pipes) (foldl_inv (fun _ => JobsOne w.pipes) hj fun _ pid _ _ _ hs => push_forall _ hs ⟨pid, fun _ ho => ho⟩)
    (fun pre f post s s' hl hs e => ?_) h
  have hf : f ∈ pre ++ f :: post := List.mem_append_right _ List.mem_cons_self
  rw [← hl] at hf
  -- a failed container's job holds what is left of the container's operators
  dsimp only at e
  split at e
  · cases e
  · cases e
    obtain ⟨P, hP⟩ := hr f (List.mem_filter.mp hf).1
    exact push_forall _ hs ⟨P, fun x hx => hP x (List.mem_filter.mp (show x ∈ nonCompleted w f.ops from hx)).1⟩

/-- **every container priority-pool builds holds operators of one pipeline**, and so does every job it keeps waiting -/
theorem ppRound_inOne (w w' : World) (st st' : St) (results : List Res) (newP : List Nat) (dec : Decision)
    (h : ppRound w st results newP = .ok (w', st', dec)) (hj : JobsOne w.pipes st) (hr : ∀ r ∈ results, InOne w.pipes r.ops) :
    (∀ a ∈ dec.asgs, InOne w.pipes a.ops) ∧ JobsOne w.pipes st' := by
  obtain ⟨st0, w1, sn1, k1, a1, w2, sn2, k2, a2, sn3, k3, a3, henq, r1, r2, r3, rfl, rfl⟩ := C08.ppRound_ok h
  have hj0 := ppEnqueue_inOne w st results newP st0 henq hj hr
  rw [ppQueue_eq] at r1 r2 r3
  -- a job's operators go into the container made for it as they are
  have fromq : ∀ {pool : Nat} {w1 w2 : World} {sn sn' : List Snap} {l : List Job} {m : Nat} {new : List Asg},
      gQueue (ppPick pool) (ppSize w.cfg.q) w1 l sn 0 [] = .ok (w2, sn', m, new) → (∀ j ∈ l, j ∈ st0.jobs) →
      ∀ a ∈ new, InOne w.pipes a.ops := by
    intro pool w1 w2 sn sn' l m new r hl a ha
    obtain ⟨j, hj', e, _⟩ := (gQueue_qrun r).job ha
    exact e ▸ hj0 j (hl j (List.mem_of_mem_take hj'))
  exact ⟨List.forall_mem_append.mpr ⟨List.forall_mem_append.mpr
      ⟨fromq r1 fun j h => List.mem_append_left _ (List.mem_append_left _ h),
       fromq r2 fun j h => List.mem_append_left _ (List.mem_append_right _ h)⟩,
      fromq r3 fun j h => List.mem_append_right _ h⟩,
    fun j hj' => hj0 j ((((List.drop_sublist _ _).append (List.drop_sublist _ _)).append (List.drop_sublist _ _)).subset hj')⟩

end Eudoxia.PP
