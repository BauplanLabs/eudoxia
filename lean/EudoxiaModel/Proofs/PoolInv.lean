import EudoxiaModel.Proofs.Oom
import EudoxiaModel.Proofs.Reach
/-! The pool invariant of C03 (conservation, unique container numbers) through every phase of a pool tick. -/
namespace Eudoxia
open OpState

structure PoolInv (p : Pool) (n : Nat) : Prop where
  cpu : p.availC + cpuSum p.active + cpuSum p.suspending = p.capC
  ram : p.availR + ramSum p.active + ramSum p.suspending = p.capR
  nodup : (cids p.active ++ cids p.suspending).Nodup
  fresh : ∀ k ∈ cids p.active ++ cids p.suspending, k < n

theorem PoolInv.mono {p : Pool} {n n' : Nat} (h : PoolInv p n) (hn : n ≤ n') : PoolInv p n' :=
  ⟨h.cpu, h.ram, h.nodup, fun k hk => Nat.lt_of_lt_of_le (h.fresh k hk) hn⟩

theorem PoolInv.activeNodup {p : Pool} {n : Nat} (h : PoolInv p n) : (cids p.active).Nodup :=
  (List.nodup_append.mp h.nodup).1

theorem PoolInv.of_keys {p p' : Pool} {n : Nat} (h : PoolInv p n) (ha : p'.active.map key = p.active.map key)
    (hs : p'.suspending = p.suspending) (hc : p'.availC = p.availC) (hr : p'.availR = p.availR)
    (hcc : p'.capC = p.capC) (hcr : p'.capR = p.capR) : PoolInv p' n := by
  constructor
  · rw [hc, hcc, hs, cpuSum_keys ha]; exact h.cpu
  · rw [hr, hcr, hs, ramSum_keys ha]; exact h.ram
  · rw [hs, cids_keys ha]; exact h.nodup
  · rw [hs, cids_keys ha]; exact h.fresh

theorem poolInv_fresh (cpus ram n : Nat) : PoolInv (Pool.fresh cpus ram) n := by
  constructor <;> simp [Pool.fresh]

theorem find_remove {l : List Ctr} {k : Nat} {c : Ctr} (h : findCtr l k = some c) (hnd : (cids l).Nodup) :
    c.cid = k ∧ cpuSum l = c.cpu + cpuSum (l.filter (·.cid != k)) ∧ ramSum l = c.ram + ramSum (l.filter (·.cid != k)) ∧
    (c.cid :: cids (l.filter (·.cid != k))).Perm (cids l) := by
  induction l with
  | nil => cases h
  | cons x l ih =>
    rw [cids_cons, List.nodup_cons] at hnd
    unfold findCtr at h
    by_cases hx : x.cid = k
    · -- found; no other container has this number
      rw [List.find?_cons_of_pos (by simpa using hx)] at h
      cases h
      have hfil : l.filter (·.cid != k) = l :=
        List.filter_eq_self.mpr fun y hy => by
          simpa using fun (heq : y.cid = k) => hnd.1 (hx ▸ heq ▸ List.mem_map_of_mem hy)
      simp [hfil, hx]
    · rw [List.find?_cons_of_neg (by simpa using hx)] at h
      obtain ⟨h1, h2, h3, h4⟩ := ih h hnd.2
      have hx' : (x.cid != k) = true := by simpa using hx
      have hfil : (x :: l).filter (·.cid != k) = x :: l.filter (·.cid != k) := List.filter_cons_of_pos hx'
      rw [hfil]
      refine ⟨h1, ?_, ?_, ?_⟩
      · rw [cpuSum_cons, cpuSum_cons, h2]
        exact Int.add_left_comm _ _ _
      · rw [ramSum_cons, ramSum_cons, h3]
        exact Int.add_left_comm _ _ _
      · rw [cids_cons]
        exact (List.Perm.swap _ _ _).trans (List.Perm.cons _ h4)

theorem suspendOne_inv {p : Pool} {n cid : Nat} {c c1 : Ctr} (inv : PoolInv p n) (hfind : findCtr p.active cid = some c)
    (hi : c.Ident c1) :
    PoolInv { p with suspending := p.suspending ++ [c1], active := p.active.filter (·.cid != cid) } n := by
  obtain ⟨_, hcpu, hram, hperm⟩ := find_remove hfind inv.activeNodup
  have hp : (cids (p.active.filter (·.cid != cid)) ++ (cids p.suspending ++ [c.cid])).Perm (cids p.active ++ cids p.suspending) := by
    refine List.Perm.trans ?_ (List.Perm.append_right _ hperm)
    rw [← List.append_assoc]
    exact (List.perm_append_comm).trans (by simp)
  constructor
  · simp only [cpuSum_append, cpuSum_cons, cpuSum_nil, hi.cpu]
    have := inv.cpu; omega
  · simp only [ramSum_append, ramSum_cons, ramSum_nil, hi.ram]
    have := inv.ram; omega
  · simp only [cids_append, cids_cons, cids_nil, hi.cid]
    exact hp.nodup_iff.mpr inv.nodup
  · intro k hk
    simp only [cids_append, cids_cons, cids_nil, hi.cid] at hk
    exact inv.fresh k (hp.subset hk)

theorem doSuspends_frame {cfg : Cfg} {l : List Nat} {w w' : Store} {p p' : Pool} (h : doSuspends cfg w p l = .ok (w', p')) :
    p' = { p with active := p'.active, suspending := p'.suspending } ∧ p'.active.Sublist p.active := by
  induction h using doSuspends_induct with
  | nil => exact ⟨rfl, .refl _⟩
  | cons _ _ _ _ ih => exact ⟨ih.1, ih.2.trans List.filter_sublist⟩

theorem susPhase_frame {cfg : Cfg} {w w1 : Store} {p p1 : Pool} {l : List Nat} (h : susPhase cfg w p l = .ok (w1, p1)) :
    p1 = { p with active := p1.active, suspending := p1.suspending, consumed := p1.consumed } ∧ p1.active.Sublist p.active := by
  obtain ⟨p0, hd, hp1⟩ := susPhase_ok h
  obtain ⟨hfr, hsub⟩ := doSuspends_frame hd
  rcases hp1 with rfl | ⟨_, rfl⟩
  · exact ⟨by rw [hfr]; rfl, hsub⟩
  · exact ⟨by rw [hfr], hsub⟩

theorem doSuspends_poolInv {cfg : Cfg} {l : List Nat} {w w' : Store} {p p' : Pool} {n : Nat}
    (h : doSuspends cfg w p l = .ok (w', p')) : PoolInv p n → PoolInv p' n := by
  induction h using doSuspends_induct with
  | nil => exact id
  | cons _ hf hs _ ih => exact fun inv => ih (suspendOne_inv inv hf (suspend_ident hs))

theorem doSuspends_inv {cfg : Cfg} {l : List Nat} {w w' : Store} {p p' : Pool} {n : Nat}
    (inv : PoolInv p n) (h : doSuspends cfg w p l = .ok (w', p')) :
    PoolInv p' n ∧ p'.capC = p.capC ∧ p'.capR = p.capR ∧ p'.availC = p.availC ∧ p'.availR = p.availR := by
  refine ⟨doSuspends_poolInv h inv, ?_⟩
  rw [(doSuspends_frame h).1]
  exact ⟨rfl, rfl, rfl, rfl⟩

theorem cpuReq_cons (a : Asg) (as : List Asg) : cpuReq (a :: as) = a.cpu + cpuReq as := by simp [cpuReq]
theorem ramReq_cons (a : Asg) (as : List Asg) : ramReq (a :: as) = a.ram + ramReq as := by simp [ramReq]

theorem startOne_inv {p : Pool} {n : Nat} (inv : PoolInv p n) (w : Store) (a : Asg) :
    PoolInv { p with availC := p.availC - a.cpu, availR := p.availR - a.ram,
                     active := p.active ++ [mkCtr w n a], created := p.created + 1 } (n + 1) := by
  have hp : ((cids p.active ++ [n]) ++ cids p.suspending).Perm (n :: (cids p.active ++ cids p.suspending)) := by
    simp
  constructor
  · simp only [cpuSum_append, cpuSum_cons, cpuSum_nil, mkCtr]; have := inv.cpu; omega
  · simp only [ramSum_append, ramSum_cons, ramSum_nil, mkCtr]; have := inv.ram; omega
  · simp only [cids_append, cids_cons, cids_nil, mkCtr]
    exact hp.nodup_iff.mpr (List.nodup_cons.mpr ⟨fun hmem => Nat.lt_irrefl _ (inv.fresh n hmem), inv.nodup⟩)
  · intro k hk
    simp only [cids_append, cids_cons, cids_nil, mkCtr] at hk
    rcases List.mem_cons.mp (hp.subset hk) with rfl | h1
    · exact Nat.lt_succ_self _
    · exact Nat.lt_succ_of_lt (inv.fresh k h1)

theorem startAll_frame {cfg : Cfg} {w : Store} {as : List Asg} {p p' : Pool} {n n' : Nat}
    (h : startAll cfg w p n as = .ok (p', n')) :
    p' = { p with availC := p'.availC, availR := p'.availR, active := p'.active, created := p'.created } ∧
    p'.active.length + p.created = p.active.length + p'.created := by
  induction h using startAll_induct with
  | nil => exact ⟨rfl, rfl⟩
  | cons _ _ _ ih =>
    refine ⟨ih.1, ?_⟩
    have := ih.2
    simp only [List.length_append, List.length_cons, List.length_nil] at this
    omega

theorem startAll_err_frame {cfg : Cfg} {w : Store} {as : List Asg} {p p' : Pool} {n n' : Nat} {e : Err}
    (h : startAll cfg w p n as = .error (e, p', n')) :
    p' = { p with availC := p'.availC, availR := p'.availR, active := p'.active, created := p'.created } ∧
    p'.active.length + p.created = p.active.length + p'.created := by
  induction h using startAll_err_induct with
  | here => exact ⟨rfl, rfl⟩
  | later _ _ _ ih =>
    refine ⟨ih.1, ?_⟩
    have := ih.2
    simp only [List.length_append, List.length_cons, List.length_nil] at this
    omega

theorem startAll_inv {cfg : Cfg} {w : Store} {as : List Asg} {p p' : Pool} {n n' : Nat} (inv : PoolInv p n)
    (h : startAll cfg w p n as = .ok (p', n')) :
    PoolInv p' n' ∧ n ≤ n' ∧ p'.capC = p.capC ∧ p'.capR = p.capR ∧
    p'.availC = p.availC - cpuReq as ∧ p'.availR = p.availR - ramReq as := by
  induction h using startAll_induct with
  | nil => simp [cpuReq, ramReq]; exact inv
  | cons _ _ _ ih =>
    obtain ⟨i1, i2, i3, i4, i5, i6⟩ := ih (startOne_inv inv _ _)
    refine ⟨i1, by omega, i3, i4, ?_, ?_⟩
    · rw [i5, cpuReq_cons]; simp only; omega
    · rw [i6, ramReq_cons]; simp only; omega

theorem startAll_err_inv {cfg : Cfg} {w : Store} {as : List Asg} {p p' : Pool} {n n' : Nat} {e : Err} (inv : PoolInv p n)
    (h : startAll cfg w p n as = .error (e, p', n')) :
    PoolInv p' n' ∧ n ≤ n' ∧ p'.capC = p.capC ∧ p'.capR = p.capR ∧
    p.availC - cpuReq as ≤ p'.availC ∧ p.availR - ramReq as ≤ p'.availR := by
  induction h using startAll_err_induct with
  | here => exact ⟨inv, Nat.le_refl _, rfl, rfl, by omega, by omega⟩
  | later _ _ _ ih =>
    obtain ⟨i1, i2, i3, i4, i5, i6⟩ := ih (startOne_inv inv _ _)
    refine ⟨i1, by omega, i3, i4, ?_, ?_⟩
    · rw [cpuReq_cons]; simp only at i5; omega
    · rw [ramReq_cons]; simp only at i6; omega

/-- moving `d` out of the suspending sum `S = d + r` into the available amount keeps the total -/
theorem release_sum {a A S d r cap : Int} (h : a + A + S = cap) (hs : S = d + r) : a + d + A + r = cap := by
  omega

theorem suspTickAll_inv {w w' : Store} {p p' : Pool} {n : Nat} (inv : PoolInv p n)
    (h : suspTickAll w p = .ok (w', p')) :
    PoolInv p' n ∧ p'.capC = p.capC ∧ p'.capR = p.capR ∧ p.availC ≤ p'.availC ∧ p.availR ≤ p'.availR ∧ p'.active = p.active := by
  obtain ⟨l, hl, rfl⟩ := suspTickAll_ok h
  have hk := keys_of_ident (suspTickList_ident hl)
  have s1 := cpuSum_filter_split l (fun c => c.suspLeft == 0)
  have s2 := ramSum_filter_split l (fun c => c.suspLeft == 0)
  have nn1 := cpuSum_nonneg (l.filter (fun c => c.suspLeft == 0))
  have nn2 := ramSum_nonneg (l.filter (fun c => c.suspLeft == 0))
  have hsub : (cids p.active ++ cids (l.filter (fun c => !(c.suspLeft == 0)))).Sublist (cids p.active ++ cids p.suspending) := by
    rw [← cids_keys hk]; exact (List.Sublist.refl _).append (cids_filter_sublist _ _)
  rw [cpuSum_keys hk] at s1
  rw [ramSum_keys hk] at s2
  refine ⟨⟨?_, ?_, hsub.nodup inv.nodup, fun k hk' => inv.fresh k (hsub.subset hk')⟩, rfl, rfl, ?_, ?_, rfl⟩
  · exact release_sum inv.cpu s1
  · exact release_sum inv.ram s2
  · exact Int.le_add_of_nonneg_right nn1
  · exact Int.le_add_of_nonneg_right nn2

theorem oomKiller_keys {w w' : Store} {p p' : Pool} (hnd : (cids p.active).Nodup) (h : oomKiller w p = .ok (w', p')) :
    p'.active.map key = p.active.map key ∧ p'.suspending = p.suspending ∧ p'.suspended = p.suspended ∧
    p'.availC = p.availC ∧ p'.availR = p.availR ∧ p'.capC = p.capC ∧ p'.capR = p.capR := by
  obtain ⟨w1, act1, cons1, hk, ⟨_, _, rfl⟩ | ⟨_, act2, _, hv, rfl⟩⟩ := oomKiller_ok h
  · exact ⟨keys_of_ident (killIndividual_ident hk), rfl, rfl, rfl, rfl, rfl, rfl⟩
  · refine ⟨?_, rfl, rfl, rfl, rfl, rfl, rfl⟩
    have hk1 := keys_of_ident (killIndividual_ident hk)
    have hvnd : (cids (sortDesc (oomCandidates act1))).Nodup :=
      (List.Perm.map _ (SortP.sortDesc_perm scoreGe _)).nodup_iff.mpr ((cids_filter_sublist act1 _).nodup (cids_keys hk1 ▸ hnd))
    obtain ⟨hact, _⟩ := killVictims_act hv (cids_keys hk1 ▸ hnd) hvnd (fun v hv' => (List.mem_filter.mp (mem_sortDesc hv')).1)
    rw [← hk1]
    show act2.map key = _
    rw [hact, List.map_map]
    apply List.map_congr_left
    intro x _
    simp only [Function.comp]; split <;> rfl

theorem collect_inv {p : Pool} {n : Nat} (inv : PoolInv p n) :
    PoolInv (collect p).1 n ∧ (collect p).1.capC = p.capC ∧ (collect p).1.capR = p.capR ∧
    p.availC ≤ (collect p).1.availC ∧ p.availR ≤ (collect p).1.availR := by
  have s1 := cpuSum_filter_split p.active (·.completed)
  have s2 := ramSum_filter_split p.active (·.completed)
  have n1 := cpuSum_nonneg (p.active.filter (·.completed))
  have n2 := ramSum_nonneg (p.active.filter (·.completed))
  have hsub : (cids (p.active.filter (fun c => !c.completed)) ++ cids p.suspending).Sublist (cids p.active ++ cids p.suspending) :=
    List.Sublist.append (cids_filter_sublist _ _) (List.Sublist.refl _)
  have S := collect_spec p
  refine ⟨⟨?_, ?_, ?_, ?_⟩, S.capC, S.capR, ?_, ?_⟩
  · rw [S.active, S.suspending, S.availC, S.capC, ← inv.cpu, s1, Int.add_assoc p.availC]
  · rw [S.active, S.suspending, S.availR, S.capR, ← inv.ram, s2, Int.add_assoc p.availR]
  · rw [S.active, S.suspending]; exact hsub.nodup inv.nodup
  · rw [S.active, S.suspending]; intro k hk; exact inv.fresh k (hsub.subset hk)
  · rw [S.availC]; exact Int.le_add_of_nonneg_right n1
  · rw [S.availR]; exact Int.le_add_of_nonneg_right n2

theorem poolRun_inv {cfg : Cfg} {w w' : Store} {p p' : Pool} {n : Nat} {res : List Res} (inv : PoolInv p n)
    (h : poolRun cfg w p = .ok (w', p', res)) :
    PoolInv p' n ∧ p'.capC = p.capC ∧ p'.capR = p.capR ∧ p.availC ≤ p'.availC ∧ p.availR ≤ p'.availR := by
  obtain ⟨w3, p3, w4, act4, cons4, p5, h3, h4, h5, rfl, _⟩ := poolRun_ok h
  obtain ⟨i3, c3, r3, a3, b3, _⟩ := suspTickAll_inv inv h3
  have hk4 := keys_of_ident (tickAll_ident h4)
  have i4 : PoolInv { p3 with active := act4, consumed := cons4 } n := i3.of_keys hk4 rfl rfl rfl rfl rfl
  obtain ⟨k5, s5, _, a5, b5, c5, r5⟩ := oomKiller_keys i4.activeNodup h5
  obtain ⟨i6, c6, r6, a6, b6⟩ := collect_inv (i4.of_keys k5 s5 a5 b5 c5 r5)
  simp only at a5 b5 c5 r5
  exact ⟨i6, by rw [c6, c5, c3], by rw [r6, r5, r3], by omega, by omega⟩

theorem poolRun_frame {cfg : Cfg} {w w' : Store} {p p' : Pool} {res : List Res} (h : poolRun cfg w p = .ok (w', p', res)) :
    p'.capC = p.capC ∧ p'.capR = p.capR := by
  obtain ⟨_, p3, _, _, _, p5, h3, _, h5, rfl, _⟩ := poolRun_ok h
  obtain ⟨_, _, hp3⟩ := suspTickAll_ok h3
  have e5 : p5.capC = p3.capC ∧ p5.capR = p3.capR := by
    obtain ⟨_, _, _, _, ⟨_, _, hp5⟩ | ⟨_, _, _, _, hp5⟩⟩ := oomKiller_ok h5 <;> rw [hp5] <;> exact ⟨rfl, rfl⟩
  rw [(collect_spec p5).capC, (collect_spec p5).capR, e5.1, e5.2, hp3]
  exact ⟨rfl, rfl⟩

def Pool.NonNeg (over : Bool) (p : Pool) : Prop := 0 ≤ p.availC ∧ (over = false → 0 ≤ p.availR)

/-- the full C03 pool invariant -/
def Pool.Good (cfg : Cfg) (p : Pool) (n : Nat) : Prop := PoolInv p n ∧ p.NonNeg cfg.overcommit

theorem Pool.Good.inv {cfg : Cfg} {p : Pool} {n : Nat} (g : p.Good cfg n) : PoolInv p n := g.1
theorem Pool.Good.nonneg {cfg : Cfg} {p : Pool} {n : Nat} (g : p.Good cfg n) : p.NonNeg cfg.overcommit := g.2

theorem susPhase_inv {cfg : Cfg} {w w1 : Store} {p p1 : Pool} {n : Nat} {l : List Nat} (g : p.Good cfg n)
    (h : susPhase cfg w p l = .ok (w1, p1)) : p1.Good cfg n ∧ p1.capC = p.capC ∧ p1.capR = p.capR := by
  obtain ⟨p0, hd, hp1⟩ := susPhase_ok h
  obtain ⟨i1, i2, i3, i4, i5⟩ := doSuspends_inv g.inv hd
  have g0 : p0.Good cfg n := ⟨i1, by unfold Pool.NonNeg; rw [i4, i5]; exact g.nonneg⟩
  rcases hp1 with rfl | ⟨_, rfl⟩
  · exact ⟨⟨⟨i1.cpu, i1.ram, i1.nodup, i1.fresh⟩, g0.2⟩, i2, i3⟩
  · exact ⟨g0, i2, i3⟩

theorem asgGate_ok {cfg : Cfg} {p : Pool} {as : List Asg} (hn : p.NonNeg cfg.overcommit) (h : asgGate cfg p as = .ok ()) :
    (cpuReq as : Int) ≤ p.availC ∧ (cfg.overcommit = false → (ramReq as : Int) ≤ p.availR) := by
  unfold asgGate at h
  by_cases he : as.isEmpty = true
  · rw [List.isEmpty_iff.mp he]
    exact hn
  · rw [if_neg he] at h
    unfold verifyAssignments at h
    by_cases h1 : (cpuReq as : Int) > p.availC
    · rw [if_pos h1] at h
      cases h
    · rw [if_neg h1] at h
      refine ⟨Int.not_lt.mp h1, fun ho => Int.not_lt.mp fun h2 => ?_⟩
      rw [ho, if_pos (by simp [h2])] at h
      cases h

theorem good_phases : PhaseInvariant Pool.Good where
  mono g h := ⟨g.inv.mono h, g.nonneg⟩
  sus g h := (susPhase_inv g h).1
  start g hg h := by
    obtain ⟨i, _, _, _, a, b⟩ := startAll_inv g.inv h
    have hreq := asgGate_ok g.nonneg hg
    exact ⟨i, by rw [a]; exact Int.sub_nonneg_of_le hreq.1, fun ho => by rw [b]; exact Int.sub_nonneg_of_le (hreq.2 ho)⟩
  startErr g hg h := by
    obtain ⟨i, _, _, _, a, b⟩ := startAll_err_inv g.inv h
    have hreq := asgGate_ok g.nonneg hg
    exact ⟨i, Int.le_trans (Int.sub_nonneg_of_le hreq.1) a, fun ho => Int.le_trans (Int.sub_nonneg_of_le (hreq.2 ho)) b⟩
  run g h := by
    obtain ⟨i, _, _, a, b⟩ := poolRun_inv g.inv h
    exact ⟨i, by have := g.nonneg.1; omega, fun ho => by have := g.nonneg.2 ho; omega⟩

end Eudoxia
