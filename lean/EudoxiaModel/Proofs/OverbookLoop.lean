import EudoxiaModel.Model.Sched.Overbook
import EudoxiaModel.Proofs.NaiveMulti
import EudoxiaModel.Proofs.CtrKept
import EudoxiaModel.Proofs.Queue
/-! The overbook scheduler in closed loop with the executor (memory overcommit on): the loop never raises. -/
namespace Eudoxia
open OpState Extracted

theorem mem_dedupAppend {l : List Nat} {x r : Nat} (h : r ∈ dedupAppend l x) : r ∈ l ∨ r = x := by
  unfold dedupAppend at h
  split at h
  · exact .inl h
  · simpa using h

theorem dedupAppend_nodup {l : List Nat} (h : l.Nodup) (x : Nat) : (dedupAppend l x).Nodup := by
  unfold dedupAppend
  split
  · exact h
  · rename_i hc
    exact List.nodup_append.mpr ⟨h, by simp, fun a ha b hb e => hc (by simpa using List.mem_singleton.mp hb ▸ e ▸ ha)⟩

/-- stated here, below both schedulers that queue single operators (`overbook` and `priority`) -/
def Prio.OpOK (w : World) (o : Nat) : Prop :=
  o < w.store.st.size ∧ w.store.stOf o ∈ assignable ∧ (∀ p ∈ w.store.parentsOf o, w.store.stOf p = completed) ∧ w.store.segsOf o ≠ []

theorem Prio.OpOK.of_getOps {w : World} (wf : w.WFP) (hs : w.SegsOK) {pid o : Nat} (h : o ∈ w.getOps pid assignable true) :
    Prio.OpOK w o ∧ o ∈ (w.pipes.getD pid default).order := by
  obtain ⟨h1, h2, h3⟩ := mem_getOps.mp h
  exact ⟨⟨(wf pid).2 o h1, h2, h3 rfl, hs pid o h1⟩, h1⟩

theorem Prio.OpOK.steps {w w' : World} {o : Nat} (h : Prio.OpOK w o) (hs : Steps w.store w'.store) (he : w'.store.stOf o = w.store.stOf o) :
    Prio.OpOK w' o := by
  obtain ⟨b1, b2, b3, b4⟩ := h
  unfold Prio.OpOK
  rw [hs.size, he, hs.segsOf, hs.parentsOf]
  exact ⟨b1, b2, fun p hp => completed_final hs p (b3 p hp), b4⟩

namespace Overbook

theorem mem_dedupFold {xs q : List Nat} {r : Nat} (h : r ∈ xs.foldl dedupAppend q) : r ∈ q ∨ r ∈ xs :=
  foldl_inv (fun pre acc => r ∈ acc → r ∈ q ∨ r ∈ pre) .inl
    (fun pre x _ acc _ ih hr => (mem_dedupAppend hr).elim (fun h1 => (ih h1).imp_right (List.mem_append_left _))
      fun e => .inr (by simp [e])) h

theorem mem_enqueue {w : World} {pids q : List Nat} {r : Nat} (h : r ∈ enqueue w q pids) :
    r ∈ q ∨ ∃ pid ∈ pids, r ∈ w.getOps pid assignable true :=
  foldl_inv (fun pre acc => r ∈ acc → r ∈ q ∨ ∃ pid ∈ pre, r ∈ w.getOps pid assignable true) .inl
    (fun pre pid _ acc _ ih hr => (mem_dedupFold hr).elim (fun h1 => (ih h1).imp_right fun ⟨p, hp, h2⟩ => ⟨p, List.mem_append_left _ hp, h2⟩)
      fun h2 => .inr ⟨pid, by simp, h2⟩) h

theorem enqueue_nodup {w : World} {pids q : List Nat} (h : q.Nodup) : (enqueue w q pids).Nodup :=
  foldl_inv (fun _ (acc : List Nat) => acc.Nodup) h fun _ _ _ _ _ hacc =>
    foldl_inv (f := dedupAppend) (fun _ (acc : List Nat) => acc.Nodup) hacc fun _ _ _ _ _ h' => dedupAppend_nodup h' _

structure QOK (w : World) (q : List Nat) : Prop where
  nd : q.Nodup
  ok : ∀ r ∈ q, r < w.store.st.size ∧ w.store.stOf r ∈ assignable ∧ (∀ p ∈ w.store.parentsOf r, w.store.stOf p = completed) ∧ w.store.segsOf r ≠ []

/-- the field `ok` spells out `Prio.OpOK` -/
theorem QOK.opOK {w : World} {q : List Nat} (h : QOK w q) {r : Nat} (hr : r ∈ q) : Prio.OpOK w r := h.ok r hr

theorem QOK.steps {w w' : World} {q : List Nat} (h : QOK w q) (hs : Steps w.store w'.store)
    (hk : ∀ x ∈ q, w'.store.stOf x = w.store.stOf x) : QOK w' q :=
  ⟨h.nd, fun x hx => (h.opOK hx).steps hs (hk x hx)⟩

theorem QOK.tail {w : World} {r : Nat} {q : List Nat} (h : QOK w (r :: q)) : QOK w q :=
  ⟨(List.nodup_cons.mp h.nd).2, fun x hx => h.ok x (List.mem_cons_of_mem _ hx)⟩

theorem enqueue_ok (w : World) (wf : w.WFP) (hs : w.SegsOK) (pids q : List Nat) (h : QOK w q) : QOK w (enqueue w q pids) := by
  refine ⟨enqueue_nodup h.nd, fun r hr => ?_⟩
  rcases mem_enqueue hr with hr | ⟨pid, _, hr⟩
  · exact h.ok r hr
  · exact (Prio.OpOK.of_getOps wf hs hr).1

theorem firstFree_some {avail : List Int} {k : Nat} (h : firstFree avail = some k) : k < avail.length ∧ avail.getD k 0 ≥ 1 := by
  unfold firstFree at h
  exact ⟨List.mem_range.mp (List.mem_of_find?_eq_some h), by simpa using List.find?_some h⟩

theorem take_cpu {avail : List Int} {k : Nat} (h : firstFree avail = some k) (j : Nat) :
    (avail.set k (avail.getD k 0 - 1)).getD j 0 ≤ avail.getD j 0 ∧ (0 ≤ avail.getD j 0 → 0 ≤ (avail.set k (avail.getD k 0 - 1)).getD j 0) := by
  obtain ⟨hk, h1⟩ := firstFree_some h
  rw [getD_set_of_lt hk]
  split
  · subst j; omega
  · exact ⟨Int.le_refl _, id⟩

theorem assign_induct {fails : List (Nat × Nat)}
    {motive : ∀ w q avail acc w' q' out, assign fails w q avail acc = .ok (w', q', out) → Prop}
    (nil : ∀ w avail acc h, motive w [] avail acc w [] acc h)
    (drop : ∀ {w r rest avail acc w' q' out} h, getFail fails (w.store.pidOf r) ≥ maxFailures →
      (hr : assign fails w rest avail acc = .ok (w', q', out)) → motive _ _ _ _ _ _ _ hr → motive w (r :: rest) avail acc w' q' out h)
    (full : ∀ {w r rest avail acc} h, getFail fails (w.store.pidOf r) < maxFailures → firstFree avail = none →
      motive w (r :: rest) avail acc w (r :: rest) acc h)
    (serve : ∀ w r avail k {rest acc w1 w' q' out} h, getFail fails (w.store.pidOf r) < maxFailures → firstFree avail = some k →
      w.mkAssignment ⟨[r], 1, (w.pools.getD k default).capR, w.prioOf (w.store.pidOf r), k⟩ = .ok w1 →
      (hr : assign fails w1 rest (avail.set k (avail.getD k 0 - 1))
        (acc ++ [⟨[r], 1, (w.pools.getD k default).capR, w.prioOf (w.store.pidOf r), k⟩]) = .ok (w', q', out)) →
      motive _ _ _ _ _ _ _ hr → motive w (r :: rest) avail acc w' q' out h)
    {w : World} {q : List Nat} {avail : List Int} {acc : List Asg} {w' : World} {q' : List Nat} {out : List Asg}
    (h : assign fails w q avail acc = .ok (w', q', out)) : motive w q avail acc w' q' out h := by
  induction q generalizing w avail acc with
  | nil => cases h; exact nil _ _ _ _
  | cons r rest ih =>
    have h' := h
    rw [assign] at h'
    by_cases hf : getFail fails (w.store.pidOf r) ≥ maxFailures
    · rw [if_pos hf] at h'
      exact drop h hf h' (ih h')
    · have hlt := Nat.lt_of_not_le hf
      rw [if_neg hf] at h'
      by_cases ha : (!(assignable.contains (w.store.stOf r))) = true
      · rw [if_pos ha] at h'
        cases h'
      · rw [if_neg ha] at h'
        cases hff : firstFree avail with
        | none =>
          rw [hff] at h'
          cases h'
          exact full h hlt hff
        | some k =>
          rw [hff] at h'
          dsimp only at h'
          cases hmk : mkA w [r] 1 (w.pools.getD k default).capR (w.prioOf (w.store.pidOf r)) k with
          | error e =>
            rw [hmk] at h'
            cases h'
          | ok p =>
            rw [hmk] at h'
            obtain ⟨w1, a⟩ := p
            obtain ⟨rfl, hm⟩ := mkA_ok hmk
            exact serve w r avail k h hlt hff hm h' (ih h')

def Single (ops : List Nat) : Prop := ∃ o, ops = [o]

structure Handed.One (n : Nat) (s : Store) (a : Asg) : Prop where
  cpu : a.cpu = 1
  pool : a.pool < n
  single : Single a.ops
  par : ParentsOK s a.ops
  seg : ∀ r ∈ a.ops, s.segsOf r ≠ []

/-- what `make_assignments` (`assign`) hands out; `avail` is its snapshot of the free CPUs, taken in `w` -/
structure Handed (w : World) (avail : List Int) (new : List Asg) (w' : World) : Prop where
  built : Built w new w'
  ok : ∀ a ∈ new, Handed.One w.pools.length w'.store a
  budget : ∀ k, ((cpuReq (new.filter (·.pool == k)) : Nat) : Int) ≤ avail.getD k 0

theorem Handed.nil {w : World} {avail : List Int} (h : ∀ k, 0 ≤ avail.getD k 0) : Handed w avail [] w :=
  ⟨.nil _, fun _ ha => (nomatch ha), h⟩

theorem Handed.cons {w w1 w' : World} {avail : List Int} {new : List Asg} {r ram prio k : Nat}
    (hw1 : w.mkAssignment ⟨[r], 1, ram, prio, k⟩ = .ok w1) (hk : k < avail.length) (hkp : k < w.pools.length)
    (rp : ∀ p ∈ w.store.parentsOf r, w.store.stOf p = completed) (rs : w.store.segsOf r ≠ [])
    (h : Handed w1 (avail.set k (avail.getD k 0 - 1)) new w') : Handed w avail (⟨[r], 1, ram, prio, k⟩ :: new) w' := by
  have hst : Steps w.store w'.store := (mkAssignment_steps_ok hw1).trans h.built.steps
  refine ⟨.cons hw1 h.built, fun a ha => ?_, fun j => ?_⟩
  · rcases List.mem_cons.mp ha with rfl | ha'
    · exact ⟨rfl, hkp, ⟨r, rfl⟩, parentsOK_frame (parentsOK_singleton rp) hst.ops (completed_final hst),
        fun x hx => by rw [List.mem_singleton.mp hx, hst.segsOf]; exact rs⟩
    · exact (mkAssignment_pools_ok hw1).1 ▸ h.ok a ha'
  · have := h.budget j
    rw [getD_set_of_lt hk] at this
    rw [List.filter_cons]
    by_cases hj : j = k
    · subst hj
      simp only [beq_self_eq_true, ↓reduceIte, cpuReq, List.map_cons, List.sum_cons] at this ⊢
      omega
    · have hjk : (k == j) = false := by simpa using fun e => hj e.symm
      simp only [hjk, Bool.false_eq_true, ↓reduceIte, hj] at this ⊢
      exact this

theorem assign_run {fails : List (Nat × Nat)} {q : List Nat} {w : World} {avail : List Int} (acc : List Asg)
    (hq : QOK w q) (hnn : ∀ k, 0 ≤ avail.getD k 0) (hlen : avail.length = w.pools.length) (hcap : ∀ p ∈ w.pools, 0 < p.capR) :
    ∃ w' q' new, assign fails w q avail acc = .ok (w', q', acc ++ new) ∧ QOK w' q' ∧ Handed w avail new w' := by
  induction q generalizing w avail acc with
  | nil => exact ⟨w, [], [], by rw [List.append_nil]; rfl, hq, .nil hnn⟩
  | cons r rest ih =>
    rw [assign]
    by_cases hf : getFail fails (w.store.pidOf r) ≥ maxFailures
    · rw [if_pos hf]
      exact ih acc hq.tail hnn hlen hcap
    · obtain ⟨rb, ra, rp, rs⟩ := hq.ok r List.mem_cons_self
      rw [if_neg hf, if_neg (by simpa using ra)]
      cases hff : firstFree avail with
      | none => exact ⟨w, r :: rest, [], by rw [List.append_nil], hq, .nil hnn⟩
      | some k =>
        obtain ⟨hk, _⟩ := firstFree_some hff
        have hkp : k < w.pools.length := hlen ▸ hk
        have hcapk : 0 < (w.pools.getD k default).capR := by
          rw [List.getD_eq_getElem?_getD, List.getElem?_eq_getElem hkp]
          exact hcap _ (List.getElem_mem hkp)
        obtain ⟨w1, hw1, hmk⟩ := mkA_succeeds (w.prioOf (w.store.pidOf r)) k (List.cons_ne_nil r []) Nat.one_pos hcapk
          (by simp) (fun x hx => by rw [List.mem_singleton.mp hx]; exact ⟨rb, ra⟩)
        simp only [hmk]
        obtain ⟨hp1, _, _⟩ := mkAssignment_pools_ok hw1
        -- the rest of the queue is not touched by this construction
        have hq1 : QOK w1 rest := hq.tail.steps (mkAssignment_steps_ok hw1) fun x hx =>
          mkAssignment_others hw1 x (fun e => (List.nodup_cons.mp hq.nd).1 (List.mem_singleton.mp e ▸ hx))
        obtain ⟨w', q', new, h1, h3, hd⟩ := ih (avail := avail.set k (avail.getD k 0 - 1)) (acc ++ [_]) hq1
          (fun j => (take_cpu hff j).2 (hnn j)) (by rw [List.length_set, hlen, hp1]) (hp1 ▸ hcap)
        exact ⟨w', q', _ :: new, by rw [h1, List.append_assoc]; rfl, h3, .cons hw1 hk hkp rp rs hd⟩

theorem touched_ok (w : World) {results : List Res} (newP : List Nat) (h : ∀ r ∈ results, Single r.ops) : ∃ pids, touched w results newP = .ok pids :=
  let ⟨pids, hp, _⟩ := foldlM_ok (fun _ _ => True) trivial fun pre r post acc e _ => by
    obtain ⟨o, ho⟩ := h r (e ▸ List.mem_append_right _ List.mem_cons_self)
    exact ⟨_, by rw [ho], trivial⟩
  ⟨pids, hp⟩

theorem round_ok {w w' : World} {st st' : St} {results : List Res} {newP : List Nat} {dec : Decision}
    (h : round w st results newP = .ok (w', st', dec)) :
    (w' = w ∧ st' = st ∧ dec = {}) ∨
    ∃ pids opq' asgs, touched w results newP = .ok pids ∧
      assign (countFails w results st.fails) w (enqueue w st.opq pids) (w.pools.map (·.availC)) [] = .ok (w', opq', asgs) ∧
      st' = { opq := opq', fails := countFails w results st.fails } ∧ dec = { asgs := asgs } := by
  unfold round at h
  split at h
  · cases h; exact .inl ⟨rfl, rfl, rfl⟩
  · split at h
    · cases h
    · split at h
      · cases h
      · cases h; exact .inr ⟨_, _, _, ‹_›, ‹_›, rfl, rfl⟩

structure OBInv (w : World) (st : St) (res : List Res) : Prop where
  ready : WorldReady w
  wfp : w.WFP
  segs : w.SegsOK
  nosusp : w.NoSusp
  q : QOK w st.opq
  rs : ∀ r ∈ res, Single r.ops
  over : w.cfg.overcommit = true
  caps : ∀ p ∈ w.pools, 0 < p.capR
  single : ∀ p ∈ w.pools, AllOps Single p.active

theorem round_run {w : World} {st : St} {res : List Res} (newP : List Nat) (inv : OBInv w st res) :
    ∃ w1 st1 asgs, round w st res newP = .ok (w1, st1, { asgs := asgs }) ∧ QOK w1 st1.opq ∧ Handed w (w.pools.map (·.availC)) asgs w1 := by
  have hfree : ∀ k, 0 ≤ (w.pools.map (·.availC)).getD k 0 := by
    intro k
    rw [List.getD_eq_getElem?_getD, List.getElem?_map]
    cases hk : w.pools[k]? with
    | none => exact Int.le_refl 0
    | some p => exact ((inv.ready.pools p (List.mem_of_getElem? hk)).1.1.2).1
  unfold round
  by_cases he : (newP.isEmpty && res.isEmpty) = true
  · rw [if_pos he]
    exact ⟨w, st, [], rfl, inv.q, .nil hfree⟩
  · obtain ⟨pids, ht⟩ := touched_ok w newP inv.rs
    obtain ⟨w', q', new, h1, h2⟩ := assign_run (fails := countFails w res st.fails) []
      (enqueue_ok w inv.wfp inv.segs pids st.opq inv.q) hfree (List.length_map _) inv.caps
    rw [if_neg he]
    simp only [ht, h1]
    exact ⟨w', _, new, rfl, h2⟩

theorem overbook_tick_never_raises (w : World) (st : St) (res : List Res) (newP : List Nat) (inv : OBInv w st res) :
    ∃ w1 st1 dec w2 res2, round w st res newP = .ok (w1, st1, dec) ∧ w1.execTick dec.sus dec.asgs = .ok (w2, res2) ∧ OBInv w2 st1 res2 := by
  obtain ⟨w1, st1, asgs, hrd, hq1, ⟨hb, hall, hbud⟩⟩ := round_run newP inv
  obtain ⟨e1, e2, e3, est⟩ := built_frame hb
  have hseg : ∀ a ∈ asgs, ∀ r ∈ a.ops, w.store.segsOf r ≠ [] := fun a ha r hr => est.segsOf r ▸ (hall a ha).seg r hr
  have hpar : ∀ a ∈ asgs, ParentsOK w1.store a.ops := fun a ha => (hall a ha).par
  obtain ⟨w2, res2, hex, r2, ns2, p2, c2, st02, st2⟩ := execTick_of_round inv.ready inv.nosusp
    { built := hb, seg := hseg, par := hpar
      pool := fun a ha => (hall a ha).pool
      verified := by
        intro k p hk
        right
        have hb' := hbud k
        rw [List.getD_eq_getElem?_getD, List.getElem?_map, hk] at hb'
        simp only [Option.map_some, Option.getD_some] at hb'
        rw [verifyAssignments, if_neg (by omega), inv.over]
        simp
      count := fun a ha => let ⟨_, er⟩ := (hall a ha).single; opCountOk_singleton er }
  obtain ⟨hsing2, hrs2⟩ := execTick_kept (ops_kept w1.cfg Single) (fun a ha _ _ => (hall a ha).single) (fun p hp => inv.single p (e1 ▸ hp)) hex
  refine ⟨w1, st1, { asgs := asgs }, w2, res2, hrd, hex, r2, inv.wfp.steps p2 st02, inv.segs.steps p2 st02, ns2,
    -- the queued operators are PENDING or FAILED, which a tick never moves
    hq1.steps st2 (fun x hx => Prio.execTick_keeps_assignable inv.ready hb hseg hpar hex (hq1.ok x hx).2.1),
    fun r hr => let ⟨_, hc, e⟩ := hrs2 r hr; e ▸ hc, by rw [c2]; exact inv.over, ?_, hsing2⟩
  -- pool sizes do not change
  have hg1 : w1.PoolsGood := fun p hp => by rw [e2, e3]; exact (inv.ready.pools p (e1 ▸ hp)).1.1
  intro p hp
  have : (p.capC, p.capR) ∈ w2.caps := List.mem_map.mpr ⟨p, hp, rfl⟩
  rw [(execTick_good_ok hg1 hex).2.1] at this
  obtain ⟨p1, hp1, e⟩ := List.mem_map.mp this
  exact (Prod.mk.inj e).2 ▸ inv.caps p1 (e1 ▸ hp1)

def loop : World → St → List Res → List (List Nat) → Except Err (World × St × List Res)
  | w, st, res, [] => .ok (w, st, res)
  | w, st, res, newP :: rest =>
    match round w st res newP with
    | .error e => .error e.1
    | .ok (w1, st1, dec) =>
      match w1.execTick dec.sus dec.asgs with
      | .error e => .error e.1
      | .ok (w2, res2) => loop w2 st1 res2 rest

/-- **the overbook scheduler (with memory overcommit, as it is meant to be run) drives any run to its last tick without raising**, in both container modes -/
theorem run_never_raises : ∀ (arrivals : List (List Nat)) (w : World) (st : St) (res : List Res), OBInv w st res →
    ∃ w' st' res', loop w st res arrivals = .ok (w', st', res') ∧ OBInv w' st' res' := by
  intro arrivals
  induction arrivals with
  | nil => intro w st res inv; exact ⟨w, st, res, rfl, inv⟩
  | cons newP rest ih =>
    intro w st res inv
    obtain ⟨w1, st1, dec, w2, res2, h1, h2, inv2⟩ := overbook_tick_never_raises w st res newP inv
    obtain ⟨w', st', res', ho, inv'⟩ := ih w2 st1 res2 inv2
    exact ⟨w', st', res', by unfold loop; rw [h1]; simp only; rw [h2]; exact ho, inv'⟩

end Overbook
end Eudoxia
