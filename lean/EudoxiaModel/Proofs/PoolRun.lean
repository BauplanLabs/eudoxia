import EudoxiaModel.Proofs.ExecSteps
import EudoxiaModel.Proofs.Sort
/-! Phases 3–6 of a pool tick (`poolRun`) as a relation between the pool before and after, container by container.
    Facts about single containers (an invariant that ticks and kills preserve, the fields they never change) pass
    through `poolRun` by this description alone. -/
namespace Eudoxia
open OpState

theorem doSuspends_lists {cfg : Cfg} {w w' : Store} {p p' : Pool} {l : List Nat} (h : doSuspends cfg w p l = .ok (w', p')) :
    p'.suspended = p.suspended ∧ p'.active = p.active.filter (fun c => !l.contains c.cid) ∧
    ∃ moved, p'.suspending = p.suspending ++ moved ∧
      Forall₂ (fun k c1 => ∃ c ∈ p.active, c.cid = k ∧ ∃ w w1, c.suspend cfg w = .ok (w1, c1)) l moved := by
  induction h using doSuspends_induct with
  | nil => exact ⟨rfl, (List.filter_eq_self.mpr (fun _ _ => rfl)).symm, [], (List.append_nil _).symm, .nil⟩
  | @cons _ _ cid _ _ _ _ _ _ _ hf hs _ ih =>
    obtain ⟨i1, i2, moved, i3, i4⟩ := ih
    refine ⟨i1, ?_, _ :: moved, by rw [i3, List.append_assoc]; rfl,
      .cons ⟨_, List.mem_of_find?_eq_some hf, by simpa using List.find?_some hf, _, _, hs⟩ (i4.imp ?_)⟩
    · rw [i2, List.filter_filter]
      refine List.filter_congr (fun c _ => ?_)
      by_cases hk : c.cid = cid <;> simp [hk]
    · rintro k c1 ⟨c, hc, hk, hs⟩
      exact ⟨c, (List.mem_filter.mp hc).1, hk, hs⟩

theorem susPhase_lists {cfg : Cfg} {w w1 : Store} {p p1 : Pool} {l : List Nat} (h : susPhase cfg w p l = .ok (w1, p1)) :
    ∃ p0, doSuspends cfg w p l = .ok (w1, p0) ∧ p1.active = p0.active ∧ p1.suspending = p0.suspending ∧
      p1.suspended = p0.suspended := by
  obtain ⟨p0, hd, rfl | ⟨_, rfl⟩⟩ := susPhase_ok h
  · exact ⟨p0, hd, rfl, rfl, rfl⟩
  · exact ⟨p1, hd, rfl, rfl, rfl⟩

theorem startAll_lists {cfg : Cfg} {w : Store} {p p' : Pool} {n n' : Nat} {as : List Asg}
    (h : startAll cfg w p n as = .ok (p', n')) :
    p'.suspending = p.suspending ∧ p'.suspended = p.suspended ∧
    ∃ new, p'.active = p.active ++ new ∧ Forall₂ (fun a c => ∃ k, c = mkCtr w k a) as new := by
  induction h using startAll_induct with
  | nil => exact ⟨rfl, rfl, [], (List.append_nil _).symm, .nil⟩
  | cons _ _ _ ih =>
    obtain ⟨i1, i2, new, i3, i4⟩ := ih
    exact ⟨i1, i2, _ :: new, by rw [i3, List.append_assoc]; rfl, .cons ⟨_, rfl⟩ i4⟩

/-- a loop that takes the containers of a list in turn and threads the operator table through -/
inductive Pass (R : Store → Ctr → Store → Ctr → Prop) : Store → List Ctr → Store → List Ctr → Prop
  | nil (w : Store) : Pass R w [] w []
  | cons {w w1 w2 : Store} {c c1 : Ctr} {cs cs2 : List Ctr} : R w c w1 c1 → Pass R w1 cs w2 cs2 → Pass R w (c :: cs) w2 (c1 :: cs2)

theorem Pass.forall₂ {R : Store → Ctr → Store → Ctr → Prop} {w w' : Store} {l l' : List Ctr} (h : Pass R w l w' l') :
    Forall₂ (fun c c' => ∃ w w1, R w c w1 c') l l' := by
  induction h with
  | nil => exact .nil
  | cons hr _ ih => exact .cons ⟨_, _, hr⟩ ih

theorem Pass.imp {R S : Store → Ctr → Store → Ctr → Prop} {w w' : Store} {l l' : List Ctr} (h : Pass R w l w' l')
    (hrs : ∀ c ∈ l, ∀ {w w' c'}, R w c w' c' → S w c w' c') : Pass S w l w' l' := by
  induction h with
  | nil => exact .nil _
  | cons hr _ ih => exact .cons (hrs _ List.mem_cons_self hr) (ih fun c hc => hrs c (List.mem_cons_of_mem _ hc))

def Ticked (cfg : Cfg) (w : Store) (c : Ctr) (w' : Store) (c' : Ctr) : Prop := ∃ cons cons', c.tick cfg w cons = .ok (w', c', cons')

def Killed (w : Store) (c : Ctr) (w' : Store) (c' : Ctr) : Prop := ∃ cons cons', c.kill w cons = .ok (w', c', cons')

def KilledIfOver (w : Store) (c : Ctr) (w' : Store) (c' : Ctr) : Prop :=
  (c.mem > c.ram ∧ Killed w c w' c') ∨ (c.mem ≤ c.ram ∧ w' = w ∧ c' = c)

theorem suspTickList_pass {w w' : Store} {l l' : List Ctr} (h : suspTickList w l = .ok (w', l')) :
    Pass (fun w c w' c' => c.suspendTick w = .ok (w', c')) w l w' l' := by
  induction h using suspTickList_induct with
  | nil => exact .nil _
  | cons _ hs _ ih => exact .cons hs ih

theorem tickAll_pass {cfg : Cfg} {w w' : Store} {l l' : List Ctr} {cons cons' : Int}
    (h : tickAll cfg w l cons = .ok (w', l', cons')) : Pass (Ticked cfg) w l w' l' := by
  induction h using tickAll_induct with
  | nil => exact .nil _
  | step _ ht _ ih => exact .cons ⟨_, _, ht⟩ ih

theorem killIndividual_pass {w w' : Store} {l l' : List Ctr} {cons cons' : Int}
    (h : killIndividual w l cons = .ok (w', l', cons')) : Pass KilledIfOver w l w' l' := by
  induction h using killIndividual_induct with
  | nil => exact .nil _
  | kill _ hgt hk _ ih => exact .cons (.inl ⟨hgt, _, _, hk⟩) ih
  | skip _ hle _ ih => exact .cons (.inr ⟨hle, rfl, rfl⟩) ih

theorem killVictims_members {capR : Nat} {w w' : Store} {act act' vs : List Ctr} {cons cons' : Int}
    (h : killVictims w capR act cons vs = .ok (w', act', cons')) :
    act'.map (·.cid) = act.map (·.cid) ∧ ∀ c' ∈ act', c' ∈ act ∨ ∃ v ∈ vs, ∃ w w1, Killed w v w1 c' := by
  induction h using killVictims_induct with
  | stop => exact ⟨rfl, fun c' hc' => .inl hc'⟩
  | @kill _ act _ v _ _ v1 _ _ _ _ _ _ hk _ ih =>
    refine ⟨ih.1.trans ?_, fun c' hc' => ?_⟩
    · rw [replaceCtr, List.map_map]
      refine List.map_congr_left (fun x _ => ?_)
      by_cases hx : x.cid = v1.cid <;> simp [hx]
    · rcases ih.2 c' hc' with hin | ⟨u, hu, hk'⟩
      · obtain ⟨x, hx, rfl⟩ := List.mem_map.mp hin
        split
        · exact .inr ⟨v, List.mem_cons_self, _, _, _, _, hk⟩
        · exact .inl hx
      · exact .inr ⟨u, List.mem_cons_of_mem _ hu, hk'⟩

/-- phases 4 and 5 for one running container: ticked, then killed or left alone -/
def RanTo (cfg : Cfg) (c c' : Ctr) : Prop := ∃ c1, (∃ w w1, Ticked cfg w c w1 c1) ∧ (c' = c1 ∨ ∃ w w1, Killed w c1 w1 c')

theorem RanTo.ident {cfg : Cfg} {c c' : Ctr} (h : RanTo cfg c c') : c.Ident c' := by
  obtain ⟨c1, ⟨_, _, _, _, ht⟩, rfl | ⟨_, _, _, _, hk⟩⟩ := h
  · exact tick_ident ht
  · exact (tick_ident ht).trans (kill_ident hk)

theorem oomKiller_ran {w w' : Store} {p p' : Pool} (h : oomKiller w p = .ok (w', p')) :
    p'.active.map (·.cid) = p.active.map (·.cid) ∧ (∀ c' ∈ p'.active, ∃ c ∈ p.active, c' = c ∨ ∃ w w1, Killed w c w1 c') ∧
    p'.suspending = p.suspending ∧ p'.suspended = p.suspended := by
  obtain ⟨_, act1, _, hk, hrest⟩ := oomKiller_ok h
  have h1 := (killIndividual_pass hk).forall₂
  have hcid1 : act1.map (·.cid) = p.active.map (·.cid) :=
    h1.map_eq (fun c c' hc => by
      obtain ⟨_, _, ⟨_, _, _, hk⟩ | ⟨_, _, rfl⟩⟩ := hc
      · exact (kill_ident hk).cid
      · rfl)
  have hmem1 : ∀ c' ∈ act1, ∃ c ∈ p.active, c' = c ∨ (c'.completed = true ∧ ∃ w w1, Killed w c w1 c') := by
    intro c' hc'
    obtain ⟨c, hc, _, _, ⟨_, _, _, hk⟩ | ⟨_, _, rfl⟩⟩ := h1.mem_right hc'
    · exact ⟨c, hc, .inr ⟨by rw [(kill_ok hk).2.1]; rfl, _, _, _, _, hk⟩⟩
    · exact ⟨c', hc, .inl rfl⟩
  rcases hrest with ⟨_, _, rfl⟩ | ⟨_, act2, _, hv, rfl⟩
  · exact ⟨hcid1, fun c' hc' => let ⟨c, hc, h⟩ := hmem1 c' hc'; ⟨c, hc, h.imp_right And.right⟩, rfl, rfl⟩
  · obtain ⟨hcid2, hmem2⟩ := killVictims_members hv
    refine ⟨hcid2.trans hcid1, fun c' hc' => ?_, rfl, rfl⟩
    rcases hmem2 c' hc' with hin | ⟨v, hv', hk'⟩
    · obtain ⟨c, hc, h⟩ := hmem1 c' hin
      exact ⟨c, hc, h.imp_right And.right⟩
    · -- a victim has not ended, so step 1 left it alone: no container is killed twice
      have hvc := List.mem_filter.mp ((SortP.sortDesc_perm scoreGe _).subset hv')
      have hlive : v.completed = false := by
        have := hvc.2
        simp only [Bool.and_eq_true, Bool.not_eq_true'] at this
        exact this.1
      obtain ⟨c, hc, rfl | ⟨hdone, _⟩⟩ := hmem1 v hvc.1
      · exact ⟨v, hc, .inr hk'⟩
      · rw [hlive] at hdone; cases hdone

/-- `poolRun` on `p` gave `p'` and `res`: `l3` is the suspending list after the countdown, `act5` the running list after
    the ticks and the OOM killer -/
structure PoolRan (cfg : Cfg) (p p' : Pool) (res : List Res) (l3 act5 : List Ctr) : Prop where
  wrote : Forall₂ (fun c c' => c' = { c with suspLeft := c.suspLeft - 1 }) p.suspending l3
  ran : ∀ c' ∈ act5, ∃ c ∈ p.active, RanTo cfg c c'
  cids : act5.map (·.cid) = p.active.map (·.cid)
  active : p'.active = act5.filter (fun c => !c.completed)
  suspending : p'.suspending = l3.filter (fun c => !(c.suspLeft == 0))
  suspended : p'.suspended = p.suspended ++ l3.filter (fun c => c.suspLeft == 0)
  res : res = (act5.filter (·.completed)).map mkRes

theorem poolRun_ran {cfg : Cfg} {w w' : Store} {p p' : Pool} {res : List Res} (h : poolRun cfg w p = .ok (w', p', res)) :
    ∃ l3 act5, PoolRan cfg p p' res l3 act5 := by
  obtain ⟨_, p3, _, act4, cons4, p5, h3, h4, h5, rfl, rfl⟩ := poolRun_ok h
  obtain ⟨l3, hl3, rfl⟩ := suspTickAll_ok h3
  have t4 := (tickAll_pass h4).forall₂
  obtain ⟨k1, k2, k3, k4⟩ := oomKiller_ran h5
  have S := collect_spec p5
  refine ⟨l3, p5.active, ?_, fun c' hc' => ?_, ?_, S.active, by rw [S.suspending, k3], by rw [S.suspended, k4], S.res⟩
  · exact (suspTickList_pass hl3).forall₂.imp (fun c c' hc => by obtain ⟨_, _, hs⟩ := hc; exact (suspendTick_ok hs).1)
  · obtain ⟨c4, hc4, hk⟩ := k2 c' hc'
    obtain ⟨c, hc, ht⟩ := t4.mem_right hc4
    exact ⟨c, hc, c4, ht, hk⟩
  · exact k1.trans (t4.map_eq (fun c c' hc => by obtain ⟨_, _, _, _, ht⟩ := hc; exact (tick_ident ht).cid))

theorem PoolRan.nosusp {cfg : Cfg} {p p' : Pool} {res : List Res} {l3 act5 : List Ctr} (h : PoolRan cfg p p' res l3 act5)
    (hs : p.suspending = []) : p'.suspending = [] := by
  have hw := h.wrote
  rw [hs] at hw
  cases hw
  exact h.suspending

end Eudoxia
