import EudoxiaModel.Proofs.Store
import EudoxiaModel.Proofs.Phases
/-! Every executor-side function relates its input and output operator table by `Steps`, and its input and
    output containers by `Ctr.Ident`; the container counter only grows. -/
namespace Eudoxia
open OpState

def Ctr.SameButPos (c c' : Ctr) : Prop := c' = { c with pos := c'.pos }

theorem Ctr.SameButPos.refl (c : Ctr) : c.SameButPos c := rfl
theorem Ctr.SameButPos.mk (c : Ctr) (p : Pos) : c.SameButPos { c with pos := p } := rfl
theorem Ctr.SameButPos.trans {a b c : Ctr} (h1 : a.SameButPos b) (h2 : b.SameButPos c) : a.SameButPos c := by
  unfold Ctr.SameButPos at *
  rw [h2, h1]

theorem seek_spec {cfg : Cfg} {w w' : Store} {c c' : Ctr} (h : seek w cfg c = .ok (w', c')) :
    Steps w w' ∧ c.SameButPos c' ∧
    ∃ r allsegs rest sg io cpuT more, c'.pos.ops = (r, allsegs) :: rest ∧ c'.pos.started = true ∧
      c'.pos.segs = (sg, io, cpuT) :: more ∧ c'.pos.i < io + cpuT := by
  fun_induction seek w cfg c
  case case1 => cases h
  case case2 => cases h
  case case3 ih =>
    rename_i hw
    obtain ⟨i1, i2, i3⟩ := ih h
    exact ⟨(Steps.single hw).trans i1, Ctr.SameButPos.trans (Ctr.SameButPos.mk _ _) i2, i3⟩
  case case4 ih =>
    obtain ⟨i1, i2, i3⟩ := ih h
    exact ⟨i1, Ctr.SameButPos.trans (Ctr.SameButPos.mk _ _) i2, i3⟩
  case case5 =>
    rename_i w0 c0 r allsegs rest hops hs sg io cpuT more hsg hlt
    cases h
    exact ⟨.refl _, rfl, r, allsegs, rest, sg, io, cpuT, more, hops, by simpa using hs, hsg, hlt⟩
  case case6 ih =>
    obtain ⟨i1, i2, i3⟩ := ih h
    exact ⟨i1, Ctr.SameButPos.trans (Ctr.SameButPos.mk _ _) i2, i3⟩

theorem seek_steps {cfg : Cfg} {w w' : Store} {c c' : Ctr} (h : seek w cfg c = .ok (w', c')) : Steps w w' := (seek_spec h).1

theorem seek_sameButPos {cfg : Cfg} {w w' : Store} {c c' : Ctr} (h : seek w cfg c = .ok (w', c')) : c.SameButPos c' :=
  (seek_spec h).2.1

/-- what no step of a container's life changes -/
structure Ctr.Ident (c c' : Ctr) : Prop where
  cid : c'.cid = c.cid
  ops : c'.ops = c.ops
  cpu : c'.cpu = c.cpu
  ram : c'.ram = c.ram
  prio : c'.prio = c.prio
  pool : c'.pool = c.pool

theorem Ctr.Ident.refl (c : Ctr) : c.Ident c := ⟨rfl, rfl, rfl, rfl, rfl, rfl⟩

theorem Ctr.Ident.trans {a b c : Ctr} (h1 : a.Ident b) (h2 : b.Ident c) : a.Ident c :=
  ⟨h2.cid.trans h1.cid, h2.ops.trans h1.ops, h2.cpu.trans h1.cpu, h2.ram.trans h1.ram, h2.prio.trans h1.prio,
   h2.pool.trans h1.pool⟩

theorem Ctr.SameButPos.ident {c c' : Ctr} (h : c.SameButPos c') : c.Ident c' := by
  rw [h]; exact ⟨rfl, rfl, rfl, rfl, rfl, rfl⟩

theorem runAt_ident {w w' : Store} {c c' : Ctr} {cons cons' : Int} {r : Nat} {last : Bool} {m : Nat}
    (h : runAt w c cons r last m = .ok (w', c', cons')) : c.Ident c' := by
  rcases runAt_ok h with ⟨_, _, rfl, _⟩ | ⟨_, _, _, _, rfl, _⟩ | ⟨_, _, _, _, rfl, _⟩ | ⟨_, _, _, rfl, _⟩ <;> exact ⟨rfl, rfl, rfl, rfl, rfl, rfl⟩

theorem runAt_excess {w w' : Store} {c c' : Ctr} {cons cons' : Int} {r : Nat} {last : Bool} {m : Nat}
    (h : runAt w c cons r last m = .ok (w', c', cons')) (hm : c.ram < m) : c' = { c with mem := m, frozen := true } := by
  rcases runAt_ok h with ⟨_, _, e, _⟩ | ⟨_, _⟩ | ⟨_, _⟩ | ⟨_, _⟩
  · exact e
  all_goals omega

structure RanWithin (c c' : Ctr) (last : Bool) (m : Nat) : Prop where
  pos : c'.pos = { c.pos with i := c.pos.i + 1, opDone := c.pos.opDone + 1 }
  cpu : c'.cpu = c.cpu
  ram : c'.ram = c.ram
  frozen : c'.frozen = c.frozen
  elapsed : c'.elapsed = c.elapsed
  completed : c'.completed = true ↔ c.completed = true ∨ (c.pos.opDone + 1 = c.pos.opTotal ∧ last = true)
  mem : c'.mem = (if c.pos.opDone + 1 = c.pos.opTotal ∧ last = true then 0 else m)
  curOpIdx : c'.curOpIdx = (if c.pos.opDone + 1 = c.pos.opTotal then c.curOpIdx + 1 else c.curOpIdx)
  canSuspend : c'.canSuspend = true ↔ c.pos.opDone + 1 = c.pos.opTotal ∧ last = false
  err : c'.err = c.err

theorem runAt_fits {w w' : Store} {c c' : Ctr} {cons cons' : Int} {r : Nat} {last : Bool} {m : Nat}
    (h : runAt w c cons r last m = .ok (w', c', cons')) (hm : m ≤ c.ram) : RanWithin c c' last m := by
  rcases runAt_ok h with ⟨_, _⟩ | ⟨_, hd, _, rfl, rfl, _⟩ | ⟨_, hd, _, rfl, rfl, _⟩ | ⟨_, hd, _, rfl, _⟩
  · omega
  all_goals constructor <;> simp [hd]

theorem runAt_cons {w w' : Store} {c c' : Ctr} {cons cons' : Int} {r : Nat} {last : Bool} {m : Nat}
    (h : runAt w c cons r last m = .ok (w', c', cons')) : cons' = cons + ((c'.mem : Int) - (c.mem : Int)) := by
  rcases runAt_ok h with ⟨_, _, rfl, rfl⟩ | ⟨_, _, _, _, rfl, rfl⟩ | ⟨_, _, _, _, rfl, rfl⟩ | ⟨_, _, _, rfl, rfl⟩
  · rfl
  · -- the last tick of the last operator takes the segment's memory and gives it back
    show cons + ((m : Int) - c.mem) + (0 - (m : Int)) = cons + (((0 : Nat) : Int) - c.mem)
    omega
  · rfl
  · rfl

theorem tick_ident {cfg : Cfg} {w w' : Store} {c c' : Ctr} {cons cons' : Int}
    (h : c.tick cfg w cons = .ok (w', c', cons')) : c.Ident c' := by
  rcases tick_ok h with ⟨_, _, rfl, _⟩ | ⟨_, c1, ha, rfl⟩
  · exact .refl _
  · refine Ctr.Ident.trans ?_ (⟨rfl, rfl, rfl, rfl, rfl, rfl⟩ : c1.Ident { c1 with elapsed := c1.elapsed + 1 })
    rcases advance_ok ha with ⟨_, _, rfl, _⟩ | ⟨_, _, _, hs, hr⟩
    · exact .refl _
    · obtain ⟨_, _, _, hr⟩ := runTick_runAt hr
      exact (seek_sameButPos hs).ident.trans (runAt_ident hr)

theorem kill_ident {w w' : Store} {c c' : Ctr} {cons cons' : Int}
    (h : c.kill w cons = .ok (w', c', cons')) : c.Ident c' := by
  rw [(kill_ok h).2.1]; exact ⟨rfl, rfl, rfl, rfl, rfl, rfl⟩

theorem suspend_ident {cfg : Cfg} {w w' : Store} {c c' : Ctr} (h : c.suspend cfg w = .ok (w', c')) : c.Ident c' := by
  rw [(suspend_ok h).2]; exact ⟨rfl, rfl, rfl, rfl, rfl, rfl⟩

theorem suspendTick_ident {w w' : Store} {c c' : Ctr} (h : c.suspendTick w = .ok (w', c')) : c.Ident c' := by
  rw [(suspendTick_ok h).1]; exact ⟨rfl, rfl, rfl, rfl, rfl, rfl⟩

theorem tickAll_ident {cfg : Cfg} {l l' : List Ctr} {w w' : Store} {cons cons' : Int}
    (h : tickAll cfg w l cons = .ok (w', l', cons')) : Forall₂ Ctr.Ident l l' := by
  induction h using tickAll_induct with
  | nil => exact .nil
  | step _ ht _ ih => exact .cons (tick_ident ht) ih

theorem killIndividual_ident {l l' : List Ctr} {w w' : Store} {cons cons' : Int}
    (h : killIndividual w l cons = .ok (w', l', cons')) : Forall₂ Ctr.Ident l l' := by
  induction h using killIndividual_induct with
  | nil => exact .nil
  | kill _ _ hk _ ih => exact .cons (kill_ident hk) ih
  | skip _ _ _ ih => exact .cons (.refl _) ih

theorem suspTickList_ident {l l' : List Ctr} {w w' : Store} (h : suspTickList w l = .ok (w', l')) :
    Forall₂ Ctr.Ident l l' := by
  induction h using suspTickList_induct with
  | nil => exact .nil
  | cons _ hs _ ih => exact .cons (suspendTick_ident hs) ih

theorem runAt_steps {w w' : Store} {c c' : Ctr} {cons cons' : Int} {r : Nat} {last : Bool} {m : Nat}
    (h : runAt w c cons r last m = .ok (w', c', cons')) : Steps w w' := by
  rcases runAt_ok h with ⟨_, rfl, _⟩ | ⟨_, _, hw, _⟩ | ⟨_, _, hw, _⟩ | ⟨_, _, rfl, _⟩
  · exact .refl _
  · exact .single hw
  · exact .single hw
  · exact .refl _

theorem runTick_steps {cfg : Cfg} {w w' : Store} {c c' : Ctr} {cons cons' : Int}
    (h : runTick cfg w c cons = .ok (w', c', cons')) : Steps w w' := by
  obtain ⟨_, _, _, h⟩ := runTick_runAt h
  exact runAt_steps h

theorem advance_steps (cfg : Cfg) (w : Store) (c : Ctr) (cons : Int) (w' : Store) (c' : Ctr) (cons' : Int)
    (h : advance cfg w c cons = .ok (w', c', cons')) : Steps w w' := by
  rcases advance_ok h with ⟨_, rfl, _⟩ | ⟨_, _, _, hs, hr⟩
  · exact .refl _
  · exact (seek_steps hs).trans (runTick_steps hr)

theorem tick_steps {cfg : Cfg} {w w' : Store} {c c' : Ctr} {cons cons' : Int}
    (h : c.tick cfg w cons = .ok (w', c', cons')) : Steps w w' := by
  rcases tick_ok h with ⟨_, rfl, _⟩ | ⟨_, _, ha, _⟩
  · exact .refl _
  · exact advance_steps _ _ _ _ _ _ _ ha

theorem kill_steps {w w' : Store} {c c' : Ctr} {cons cons' : Int}
    (h : c.kill w cons = .ok (w', c', cons')) : Steps w w' :=
  transAll_steps (kill_ok h).1

theorem suspend_steps {cfg : Cfg} {w w' : Store} {c c' : Ctr}
    (h : c.suspend cfg w = .ok (w', c')) : Steps w w' :=
  transAll_steps (suspend_ok h).1

theorem suspendTick_steps {w w' : Store} {c c' : Ctr}
    (h : c.suspendTick w = .ok (w', c')) : Steps w w' := by
  rcases (suspendTick_ok h).2 with ⟨_, hw⟩ | ⟨_, rfl⟩
  · exact transAll_steps hw
  · exact .refl _

theorem doSuspends_steps {cfg : Cfg} {l : List Nat} {w w' : Store} {p p' : Pool}
    (h : doSuspends cfg w p l = .ok (w', p')) : Steps w w' := by
  induction h using doSuspends_induct with
  | nil => exact .refl _
  | cons _ _ hs _ ih => exact (suspend_steps hs).trans ih

theorem suspTickList_steps {l l' : List Ctr} {w w' : Store} (h : suspTickList w l = .ok (w', l')) : Steps w w' := by
  induction h using suspTickList_induct with
  | nil => exact .refl _
  | cons _ hs _ ih => exact (suspendTick_steps hs).trans ih

theorem suspTickAll_steps {w w' : Store} {p p' : Pool} (h : suspTickAll w p = .ok (w', p')) : Steps w w' :=
  let ⟨_, hl, _⟩ := suspTickAll_ok h
  suspTickList_steps hl

theorem tickAll_steps {cfg : Cfg} {l l' : List Ctr} {w w' : Store} {cons cons' : Int}
    (h : tickAll cfg w l cons = .ok (w', l', cons')) : Steps w w' := by
  induction h using tickAll_induct with
  | nil => exact .refl _
  | step _ ht _ ih => exact (tick_steps ht).trans ih

theorem killIndividual_steps {l l' : List Ctr} {w w' : Store} {cons cons' : Int}
    (h : killIndividual w l cons = .ok (w', l', cons')) : Steps w w' := by
  induction h using killIndividual_induct with
  | nil => exact .refl _
  | kill _ _ hk _ ih => exact (kill_steps hk).trans ih
  | skip _ _ _ ih => exact ih

theorem killVictims_steps {capR : Nat} {vs act act' : List Ctr} {w w' : Store} {cons cons' : Int}
    (h : killVictims w capR act cons vs = .ok (w', act', cons')) : Steps w w' := by
  induction h using killVictims_induct with
  | stop => exact .refl _
  | kill _ _ hk _ ih => exact (kill_steps hk).trans ih

theorem oomKiller_steps {w w' : Store} {p p' : Pool} (h : oomKiller w p = .ok (w', p')) : Steps w w' := by
  obtain ⟨_, _, _, hk, ⟨_, rfl, _⟩ | ⟨_, _, _, hv, _⟩⟩ := oomKiller_ok h
  · exact killIndividual_steps hk
  · exact (killIndividual_steps hk).trans (killVictims_steps hv)

theorem poolRun_steps {cfg : Cfg} {w w' : Store} {p p' : Pool} {res : List Res}
    (h : poolRun cfg w p = .ok (w', p', res)) : Steps w w' := by
  obtain ⟨_, _, _, _, _, _, h3, h4, h5, _⟩ := poolRun_ok h
  exact ((suspTickAll_steps h3).trans (tickAll_steps h4)).trans (oomKiller_steps h5)

theorem susPhase_steps {cfg : Cfg} {w w1 : Store} {p p1 : Pool} {l : List Nat}
    (h : susPhase cfg w p l = .ok (w1, p1)) : Steps w w1 := by
  obtain ⟨_, hd, _⟩ := susPhase_ok h
  exact doSuspends_steps hd

theorem poolTick_steps_ok {cfg : Cfg} {w w' : Store} {p p' : Pool} {n n' : Nat} {cm : Cmds} {res : List Res}
    (h : poolTick cfg w p n cm = .ok (w', p', n', res)) : Steps w w' := by
  obtain ⟨_, _, _, _, hs, _, _, hr⟩ := poolTick_ok h
  exact (susPhase_steps hs).trans (poolRun_steps hr)

theorem poolTick_steps_err {cfg : Cfg} {w w' : Store} {p p' : Pool} {n n' : Nat} {cm : Cmds} {e : Err}
    (h : poolTick cfg w p n cm = .error (e, some (w', p', n'))) : Steps w w' := by
  rcases poolTick_err h with ⟨_, rfl, _⟩ | ⟨hs, _⟩ | ⟨_, hs, _⟩
  · exact .refl _
  · exact susPhase_steps hs
  · exact susPhase_steps hs

theorem execPools_steps_ok {cfg : Cfg} {sus : List (Nat × Nat)} {asgs : List Asg} {todo done ps : List Pool}
    {s s' : Store} {n n' : Nat} {res res' : List Res}
    (h : execPools cfg sus asgs s n done todo res = .ok (s', ps, n', res')) : Steps s s' := by
  induction h using execPools_induct with
  | nil => exact .refl _
  | step _ hp _ ih => exact (poolTick_steps_ok hp).trans ih

theorem execPools_steps_err {cfg : Cfg} {sus : List (Nat × Nat)} {asgs : List Asg} {todo done ps : List Pool}
    {s s' : Store} {n n' : Nat} {res : List Res} {e : Err}
    (h : execPools cfg sus asgs s n done todo res = .error (e, some (s', ps, n'))) : Steps s s' := by
  induction h using execPools_err_induct with
  | here _ hp => exact poolTick_steps_err hp
  | later _ hp _ ih => exact (poolTick_steps_ok hp).trans ih

theorem execTick_steps_ok {w w' : World} {sus : List (Nat × Nat)} {asgs : List Asg} {res : List Res}
    (h : w.execTick sus asgs = .ok (w', res)) : Steps w.store w'.store := by
  obtain ⟨_, _, _, _, _, hp, rfl⟩ := execTick_ok h
  exact execPools_steps_ok hp

theorem execTick_steps_err {w w' : World} {sus : List (Nat × Nat)} {asgs : List Asg} {e : Err}
    (h : w.execTick sus asgs = .error (e, some w')) : Steps w.store w'.store := by
  rcases execTick_err h with ⟨_, rfl⟩ | ⟨_, _, _, hp, rfl⟩
  · exact .refl _
  · exact execPools_steps_err hp

theorem mkAssignment_steps_ok {w w' : World} {a : Asg} (h : w.mkAssignment a = .ok w') : Steps w.store w'.store := by
  obtain ⟨_, _, _, _, hs, rfl⟩ := mkAssignment_ok h
  exact assignOps_steps hs

theorem mkAssignment_steps_err {w w' : World} {a : Asg} {e : Err} (h : w.mkAssignment a = .error (e, w')) :
    Steps w.store w'.store := by
  rcases mkAssignment_err h with rfl | ⟨_, hs, rfl⟩
  · exact .refl _
  · exact assignOps_steps_err hs

theorem startAll_le {cfg : Cfg} {w : Store} {p p' : Pool} {n n' : Nat} {l : List Asg}
    (h : startAll cfg w p n l = .ok (p', n')) : n ≤ n' := by
  induction h using startAll_induct with
  | nil => exact Nat.le_refl _
  | cons _ _ _ ih => exact Nat.le_of_succ_le ih

theorem startAll_err_le {cfg : Cfg} {w : Store} {p p' : Pool} {n n' : Nat} {l : List Asg} {e : Err}
    (h : startAll cfg w p n l = .error (e, p', n')) : n ≤ n' := by
  induction h using startAll_err_induct with
  | here => exact Nat.le_refl _
  | later _ _ _ ih => exact Nat.le_of_succ_le ih

theorem startAll_err_opCount {cfg : Cfg} {w : Store} {p p' : Pool} {n n' : Nat} {l : List Asg} {e : Err}
    (h : startAll cfg w p n l = .error (e, p', n')) : e = .opCount := by
  induction h using startAll_err_induct with
  | here _ _ _ _ _ _ he => exact he
  | later _ _ _ ih => exact ih

end Eudoxia
