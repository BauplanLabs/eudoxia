import EudoxiaModel.Proofs.FreshWorlds
import EudoxiaModel.Proofs.NaiveExample
/-! The concrete world of `NaiveExample`, with memory overcommit switched on, meets every hypothesis of the overbook closed-loop theorem. -/
namespace Eudoxia.OverbookExample
open Eudoxia OpState Extracted

def world (multi : Bool) : World :=
  { NaiveExample.world multi with cfg := { tps := 1, q := 64, g := 1280, multiOp := multi, overcommit := true } }

theorem inv (multi : Bool) : Overbook.OBInv (world multi) {} [] :=
  Overbook.fresh_inv (world multi).cfg NaiveExample.store (world multi).pipes [(4, 64 * 8), (4, 64 * 8)] rfl (by decide)
    (NaiveExample.wfp multi) (NaiveExample.segsOK multi)

theorem runs (multi : Bool) (arrivals : List (List Nat)) : ∃ out, Overbook.loop (world multi) {} [] arrivals = .ok out :=
  let ⟨w', st', res', h, _⟩ := Overbook.run_never_raises arrivals _ _ _ (inv multi); ⟨(w', st', res'), h⟩

end Eudoxia.OverbookExample
