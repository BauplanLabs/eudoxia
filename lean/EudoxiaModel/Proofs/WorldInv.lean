import EudoxiaModel.Proofs.PoolInv
/-! The C03 invariant for all pools of a world, through the executor step and every reachable world. -/
namespace Eudoxia

/-- `w.AllPools Pool.Good`, by `rfl`; C03 is stated with this name -/
def World.PoolsGood (w : World) : Prop := ∀ p ∈ w.pools, p.Good w.cfg w.nextCid

def World.caps (w : World) : List (Nat × Nat) := w.pools.map (fun p => (p.capC, p.capR))

theorem poolTick_caps_ok {cfg : Cfg} {w w' : Store} {p p' : Pool} {n n' : Nat} {cm : Cmds} {res : List Res}
    (h : poolTick cfg w p n cm = .ok (w', p', n', res)) : (p'.capC, p'.capR) = (p.capC, p.capR) := by
  obtain ⟨_, p1, p2, _, hs, _, hst, hr⟩ := poolTick_ok h
  rw [(poolRun_frame hr).1, (poolRun_frame hr).2, (startAll_frame hst).1, (susPhase_frame hs).1]

theorem poolTick_caps_err {cfg : Cfg} {w w' : Store} {p p' : Pool} {n n' : Nat} {cm : Cmds} {e : Err}
    (h : poolTick cfg w p n cm = .error (e, some (w', p', n'))) : (p'.capC, p'.capR) = (p.capC, p.capR) := by
  rcases poolTick_err h with ⟨_, _, rfl, _⟩ | ⟨hs, _⟩ | ⟨_, hs, _, hst⟩
  · rfl
  · rw [(susPhase_frame hs).1]
  · rw [(startAll_err_frame hst).1, (susPhase_frame hs).1]

theorem execPools_caps {cfg : Cfg} {sus : List (Nat × Nat)} {asgs : List Asg} {s s' : Store} {n n' : Nat}
    {done todo ps : List Pool} {res res' : List Res} (h : execPools cfg sus asgs s n done todo res = .ok (s', ps, n', res')) :
    ps.map (fun p => (p.capC, p.capR)) = (done ++ todo).map (fun p => (p.capC, p.capR)) := by
  induction h using execPools_induct with
  | nil => rw [List.append_nil]
  | step _ hp _ ih => rw [ih]; simp [poolTick_caps_ok hp]

theorem execPools_caps_err {cfg : Cfg} {sus : List (Nat × Nat)} {asgs : List Asg} {s s' : Store} {n n' : Nat}
    {done todo ps : List Pool} {res : List Res} {e : Err} (h : execPools cfg sus asgs s n done todo res = .error (e, some (s', ps, n'))) :
    ps.map (fun p => (p.capC, p.capR)) = (done ++ todo).map (fun p => (p.capC, p.capR)) := by
  induction h using execPools_err_induct with
  | here _ hp => simp [poolTick_caps_err hp]
  | later _ hp _ ih => rw [ih]; simp [poolTick_caps_ok hp]

theorem execTick_caps_ok {w w' : World} {sus : List (Nat × Nat)} {asgs : List Asg} {res : List Res}
    (h : w.execTick sus asgs = .ok (w', res)) : w'.caps = w.caps ∧ w'.cfg = w.cfg := by
  obtain ⟨_, _, _, _, _, hp, rfl⟩ := execTick_ok h
  exact ⟨execPools_caps hp, rfl⟩

theorem execTick_caps_err {w w' : World} {sus : List (Nat × Nat)} {asgs : List Asg} {e : Err}
    (h : w.execTick sus asgs = .error (e, some w')) : w'.caps = w.caps ∧ w'.cfg = w.cfg := by
  rcases execTick_err h with ⟨_, rfl⟩ | ⟨_, _, _, hp, rfl⟩
  · exact ⟨rfl, rfl⟩
  · exact ⟨execPools_caps_err hp, rfl⟩

theorem reach_caps {w w' : World} (h : Reach w w') : w'.caps = w.caps ∧ w'.cfg = w.cfg := by
  induction h with
  | refl => exact ⟨rfl, rfl⟩
  | assignOk a _ h2 ih =>
    obtain ⟨p1, p2, _⟩ := mkAssignment_pools_ok h2
    exact ⟨by rw [← ih.1, World.caps, p1]; rfl, p2.trans ih.2⟩
  | assignErr a e _ h2 ih =>
    obtain ⟨p1, p2, _⟩ := mkAssignment_pools_err h2
    exact ⟨by rw [← ih.1, World.caps, p1]; rfl, p2.trans ih.2⟩
  | tickOk sus asgs res _ h2 ih => exact ⟨(execTick_caps_ok h2).1.trans ih.1, (execTick_caps_ok h2).2.trans ih.2⟩
  | tickErr sus asgs e _ h2 ih => exact ⟨(execTick_caps_err h2).1.trans ih.1, (execTick_caps_err h2).2.trans ih.2⟩

theorem execTick_good_ok {w w' : World} {sus : List (Nat × Nat)} {asgs : List Asg} {res : List Res}
    (g : w.PoolsGood) (h : w.execTick sus asgs = .ok (w', res)) : w'.PoolsGood ∧ w'.caps = w.caps ∧ w'.cfg = w.cfg :=
  ⟨reach_lift good_phases.tick (.tickOk sus asgs res (.refl w) h) g, execTick_caps_ok h⟩

theorem reach_good {w w' : World} (h : Reach w w') (g : w.PoolsGood) :
    w'.PoolsGood ∧ w'.caps = w.caps ∧ w'.cfg = w.cfg :=
  ⟨reach_lift good_phases.tick h g, reach_caps h⟩

end Eudoxia
