import EudoxiaModel.Model.Exec
import EudoxiaModel.Proofs.ExecSteps
/-! Chains of accepted `Assignment(...)` constructions and what they do to operator states. -/
namespace Eudoxia
open OpState Extracted

inductive Built : World → List Asg → World → Prop
  | nil (w : World) : Built w [] w
  | cons {w w1 w2 : World} {a : Asg} {as : List Asg} : w.mkAssignment a = .ok w1 → Built w1 as w2 → Built w (a :: as) w2

theorem Built.append {w w1 w2 : World} {x y : List Asg} (h1 : Built w x w1) (h2 : Built w1 y w2) : Built w (x ++ y) w2 := by
  induction h1 with
  | nil => exact h2
  | cons hm _ ih => exact .cons hm (ih h2)

def Assigns (s s' : Store) (l : List Nat) : Prop :=
  l.Nodup ∧ (∀ o ∈ l, s.stOf o ∈ assignable ∧ s'.stOf o = assigned) ∧ ∀ o, o ∉ l → s'.stOf o = s.stOf o

theorem Assigns.nil (s : Store) : Assigns s s [] := ⟨List.nodup_nil, (fun _ h => nomatch h), fun _ _ => rfl⟩

/-- an operator ASSIGNED by the first step is not assignable any more, so the second step leaves it alone -/
theorem Assigns.append {s s1 s' : Store} {l1 l2 : List Nat} (h1 : Assigns s s1 l1) (h2 : Assigns s1 s' l2) : Assigns s s' (l1 ++ l2) := by
  obtain ⟨n1, a1, f1⟩ := h1
  obtain ⟨n2, a2, f2⟩ := h2
  have disj : ∀ o, o ∈ l1 → o ∉ l2 := fun o ho hin => by
    have := (a2 o hin).1
    rw [(a1 o ho).2] at this
    simp [assignable] at this
  refine ⟨List.nodup_append.mpr ⟨n1, n2, fun x hx y hy e => disj x hx (e ▸ hy)⟩, fun o ho => ?_, fun o ho => ?_⟩
  · rcases List.mem_append.mp ho with ho | ho
    · exact ⟨(a1 o ho).1, by rw [f2 o (disj o ho)]; exact (a1 o ho).2⟩
    · exact ⟨f1 o (fun hx => disj o hx ho) ▸ (a2 o ho).1, (a2 o ho).2⟩
  · rw [List.mem_append, not_or] at ho
    rw [f2 o ho.2, f1 o ho.1]

theorem assignOps_spec {l : List Nat} {s s' : Store} (h : assignOps s l = .ok s') :
    l.Nodup ∧ (∀ o ∈ l, s.stOf o ∈ assignable ∧ s'.stOf o = assigned) ∧ ∀ o, o ∉ l → s'.stOf o = s.stOf o := by
  induction l generalizing s with
  | nil => cases h; exact Assigns.nil _
  | cons r rs ih =>
    obtain ⟨s1, ht, h⟩ := assignOps_cons_ok.mp h
    obtain ⟨hv, _, hself, hother⟩ := accepted_valid ht
    have hr : s.stOf r ∈ assignable := by
      revert hv; cases s.stOf r <;> simp [validNext, assignable]
    have h1 : Assigns s s1 [r] :=
      ⟨List.nodup_cons.mpr ⟨List.not_mem_nil, List.nodup_nil⟩, fun o ho => by rw [List.mem_singleton.mp ho]; exact ⟨hr, hself⟩,
        fun o ho => hother o fun e => ho (e ▸ List.mem_singleton_self r)⟩
    exact h1.append (ih h)

theorem mkAssignment_pipes {w w' : World} {a : Asg} (h : w.mkAssignment a = .ok w') : w'.pipes = w.pipes := by
  obtain ⟨_, _, _, _, _, rfl⟩ := mkAssignment_ok h
  rfl

theorem Built.pipes {w w' : World} {as : List Asg} (hb : Built w as w') : w'.pipes = w.pipes := by
  induction hb with
  | nil => rfl
  | cons hm _ ih => rw [ih, mkAssignment_pipes hm]

theorem mkAssignment_spec {w w' : World} {a : Asg} (h : w.mkAssignment a = .ok w') :
    a.ops ≠ [] ∧ 0 < a.cpu ∧ 0 < a.ram ∧ a.ops.Nodup ∧ (∀ o ∈ a.ops, w.store.stOf o ∈ assignable ∧ w'.store.stOf o = assigned) ∧
    (∀ o, o ∉ a.ops → w'.store.stOf o = w.store.stOf o) := by
  obtain ⟨h1, h2, h3, s, hs, rfl⟩ := mkAssignment_ok h
  exact ⟨h1, Nat.pos_of_ne_zero h2, Nat.pos_of_ne_zero h3, assignOps_spec hs⟩

theorem mkAssignment_assigned {w w' : World} {a : Asg} (h : w.mkAssignment a = .ok w') :
    ∀ o ∈ a.ops, w.store.stOf o ∈ assignable ∧ w'.store.stOf o = assigned := (mkAssignment_spec h).2.2.2.2.1

theorem mkAssignment_others {w w' : World} {a : Asg} (h : w.mkAssignment a = .ok w') :
    ∀ o, o ∉ a.ops → w'.store.stOf o = w.store.stOf o := (mkAssignment_spec h).2.2.2.2.2

/-- **admissible by construction**: what makes a batch admissible holds along any chain of accepted constructions -/
theorem built_spec {w w' : World} {as : List Asg} (h : Built w as w') :
    (as.flatMap (·.ops)).Nodup ∧ (∀ a ∈ as, a.ops ≠ [] ∧ 0 < a.cpu ∧ 0 < a.ram) ∧
    (∀ o ∈ as.flatMap (·.ops), w.store.stOf o ∈ assignable ∧ w'.store.stOf o = assigned) ∧
    (∀ o, o ∉ as.flatMap (·.ops) → w'.store.stOf o = w.store.stOf o) := by
  induction h with
  | nil => exact ⟨List.nodup_nil, (fun _ h => nomatch h), (fun _ h => nomatch h), fun _ _ => rfl⟩
  | cons hm _ ih =>
    obtain ⟨m1, m2, m3, m⟩ := mkAssignment_spec hm
    obtain ⟨i1, i2, i⟩ := ih
    obtain ⟨r1, r⟩ := Assigns.append m ⟨i1, i⟩
    exact ⟨r1, List.forall_mem_cons.mpr ⟨⟨m1, m2, m3⟩, i2⟩, r⟩

theorem Built.nodup {w w' : World} {as : List Asg} (h : Built w as w') : (as.flatMap (·.ops)).Nodup := (built_spec h).1

theorem Built.pos {w w' : World} {as : List Asg} (h : Built w as w') : ∀ a ∈ as, a.ops ≠ [] ∧ 0 < a.cpu ∧ 0 < a.ram :=
  (built_spec h).2.1

theorem Built.assigned {w w' : World} {as : List Asg} (h : Built w as w') :
    ∀ o ∈ as.flatMap (·.ops), w.store.stOf o ∈ assignable ∧ w'.store.stOf o = assigned := (built_spec h).2.2.1

theorem Built.others {w w' : World} {as : List Asg} (h : Built w as w') :
    ∀ o, o ∉ as.flatMap (·.ops) → w'.store.stOf o = w.store.stOf o := (built_spec h).2.2.2

end Eudoxia
