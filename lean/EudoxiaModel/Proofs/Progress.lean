import EudoxiaModel.Proofs.Live
/-! Execution never gets stuck: on containers whose operators are in the states their positions imply, and whose dependencies are
    satisfied inside the container or already completed, no step of a tick raises, from `Container.tick` up to the executor's loop
    over the pools, which can only be refused at a pool's gates. -/
namespace Eudoxia
open OpState Extracted

def ExactSt (s : Store) (c : Ctr) : Prop :=
  match c.unfinished with
  | [] => True
  | r :: rest => s.stOf r = (if headRunning c then running else assigned) ∧ ∀ o ∈ rest, s.stOf o = assigned

def ParentsOK (s : Store) (U : List Nat) : Prop :=
  ∀ (pre : List Nat) (o : Nat) (post : List Nat), U = pre ++ o :: post → ∀ q ∈ s.parentsOf o, s.stOf q = completed ∨ q ∈ pre

/-- `more` speaks of the profile of demands still to come (`rem`, Profile.lean); for a consistent container it is `c.unfinished ≠ []`
(`rem_ne_nil_iff`). -/
structure CtrReady (cfg : Cfg) (s : Store) (c : Ctr) : Prop where
  inv : CtrInv cfg c
  st : ExactSt s c
  par : ParentsOK s c.unfinished
  inb : ∀ o ∈ c.unfinished, o < s.st.size
  more : c.completed = false → rem cfg c ≠ []

theorem transition_succeeds (s : Store) (r : Nat) (t : OpState) (hb : r < s.st.size) (hv : t ∈ validNext (s.stOf r))
    (hp : t = running → ∀ p ∈ s.parentsOf r, s.stOf p = completed) : s.transition r t = .ok (s.setSt r t) := by
  refine transition_ok_iff.mpr ⟨?_, rfl⟩
  unfold Store.check
  have h1 : (decide (r < s.st.size)) = true := by simpa using hb
  have h2 : (validNext (s.stOf r)).contains t = true := by simpa using hv
  simp only [h1, Bool.not_true, Bool.false_eq_true, ↓reduceIte, h2]
  by_cases ht : t = running
  · have hall : (s.parentsOf r).all (fun p => s.stOf p == completed) = true := by
      simp only [List.all_eq_true, beq_iff_eq]; exact hp ht
    simp [hall]
  · have : (t == running) = false := by simpa using ht
    simp [this]

theorem parentsOK_frame {s s' : Store} {U : List Nat} (h : ParentsOK s U) (hp : s'.ops = s.ops)
    (hc : ∀ q, s.stOf q = completed → s'.stOf q = completed) : ParentsOK s' U := by
  intro pre o post e q hq
  have hq' : q ∈ s.parentsOf o := by unfold Store.parentsOf at hq ⊢; rw [← hp]; exact hq
  rcases h pre o post e q hq' with h1 | h1
  · exact Or.inl (hc q h1)
  · exact Or.inr h1

theorem parentsOK_tail {s s' : Store} {r : Nat} {rest : List Nat} (h : ParentsOK s (r :: rest)) (hp : s'.ops = s.ops)
    (hc : ∀ q, s.stOf q = completed → s'.stOf q = completed) (hr : s'.stOf r = completed) : ParentsOK s' rest := by
  intro pre o post e q hq
  rcases parentsOK_frame h hp hc (r :: pre) o post (by rw [e]; rfl) q hq with h1 | h1
  · exact .inl h1
  · exact (List.mem_cons.mp h1).elim (fun e => .inl (e ▸ hr)) .inr

theorem exactSt_of {s : Store} {c : Ctr} {r : Nat} {rest : List Nat} (hu : c.unfinished = r :: rest)
    (h1 : s.stOf r = (if headRunning c then running else assigned)) (h2 : ∀ o ∈ rest, s.stOf o = assigned) : ExactSt s c := by
  unfold ExactSt; rw [hu]; exact ⟨h1, h2⟩

theorem exactSt_cons {s : Store} {c : Ctr} {r : Nat} {rest : List Nat} (h : ExactSt s c) (hu : c.unfinished = r :: rest) :
    s.stOf r = (if headRunning c then running else assigned) ∧ ∀ o ∈ rest, s.stOf o = assigned := by
  unfold ExactSt at h; rw [hu] at h; exact h

theorem exactSt_congr {s : Store} {c c' : Ctr} (h : ExactSt s c) (hu : c'.unfinished = c.unfinished) (hh : headRunning c' = headRunning c) :
    ExactSt s c' := by
  unfold ExactSt at *; rw [hu, hh]; exact h

theorem remOps_ne_nil (cfg : Cfg) (cpu : Nat) (ops : List (Nat × List Seg)) (hne : ops ≠ []) (hseg : ∀ o ∈ ops, o.2 ≠ []) : remOps cfg cpu ops ≠ [] := by
  cases ops with
  | nil => exact absurd rfl hne
  | cons o os =>
    intro e
    have hlen := congrArg List.length e
    simp only [remOps, List.flatMap_cons, List.length_append, opRem_length, List.length_nil] at hlen
    have := opTickTable_pos cfg cpu o.2 (hseg o (by simp))
    omega

theorem rem_ne_nil_iff {cfg : Cfg} {c : Ctr} (wf : CtrWF cfg c) : rem cfg c ≠ [] ↔ c.unfinished ≠ [] := by
  rw [unfinished_eq, wf.idx]
  cases hops : c.pos.ops with
  | nil => simp [rem, remHead, remOps, posUnf, hops]
  | cons o os =>
    have hseg : ∀ x ∈ o :: os, x.2 ≠ [] := hops ▸ wf.segs
    cases hs : c.pos.started with
    | false =>
      have := opTickTable_pos cfg c.cpu o.2 (hseg o List.mem_cons_self)
      have hne : opRem cfg c.cpu o.2 ≠ [] := fun e => by have := congrArg List.length e; rw [opRem_length] at this; simp at this; omega
      simp [rem, remHead, posUnf, hops, hs, hne]
    | true =>
      have hp := wf.pos hs
      by_cases hd : c.pos.opDone = c.pos.opTotal
      · have hnil : remSegs cfg c.pos.segs c.pos.i = [] := List.eq_nil_of_length_eq_zero (by omega)
        simp only [rem, remHead, posUnf, hops, hs, hd, hnil, beq_self_eq_true, Bool.and_self, ↓reduceIte, List.tail_cons, List.nil_append, ne_eq,
          List.map_eq_nil_iff]
        exact ⟨fun h e => h (by rw [e]; rfl), fun h => remOps_ne_nil cfg c.cpu os h fun x hx => hseg x (List.mem_cons_of_mem _ hx)⟩
      · have hne : remSegs cfg c.pos.segs c.pos.i ≠ [] := fun e => by rw [e] at hp; simp at hp; omega
        simp [rem, remHead, posUnf, hops, hs, hd, hne]

theorem seek_succeeds {cfg : Cfg} {w : Store} {c : Ctr} (wf : CtrWF cfg c) (hst : ExactSt w c)
    (hpar : ParentsOK w c.unfinished) (hinb : ∀ o ∈ c.unfinished, o < w.st.size) (hmore : c.unfinished ≠ []) :
    ∃ w' c', seek w cfg c = .ok (w', c') := by
  cases hs : seek w cfg c with
  | ok v => exact ⟨v.1, v.2, rfl⟩
  | error e =>
    exfalso
    rcases (seek_cases wf).2 _ hs with h | ⟨hh, r, hr, hw⟩
    · exact hmore (by rw [unfinished_eq, wf.idx, h])
    · obtain ⟨rest, hu⟩ := List.head?_eq_some_iff.mp hr
      rw [← wf.idx, ← unfinished_eq] at hu
      obtain ⟨s1, _⟩ := exactSt_cons hst hu
      rw [hh] at s1
      have := transition_succeeds w r running (hinb r (by rw [hu]; simp)) (by rw [s1]; simp [validNext])
        (fun _ p hp => (hpar [] r rest (by rw [hu]; rfl) p hp).resolve_right (by simp))
      rw [this] at hw; cases hw

theorem exactSt_of_assigned {s : Store} {c : Ctr} (hh : headRunning c = false) (h : ∀ o ∈ c.unfinished, s.stOf o = assigned) : ExactSt s c := by
  unfold ExactSt
  cases hu : c.unfinished with
  | nil => trivial
  | cons r rest => rw [hu] at h; exact ⟨by rw [hh]; exact h r List.mem_cons_self, fun o ho => h o (List.mem_cons_of_mem _ ho)⟩

theorem runTick_succeeds {cfg : Cfg} {w w2 : Store} {c : Ctr} {cons : Int} {r : Nat} {sgs : List Seg} {rest : List (Nat × List Seg)}
    {s : Seg × Nat × Nat} {more : List (Seg × Nat × Nat)} (e1 : c.pos.ops = (r, sgs) :: rest) (e3 : c.pos.segs = s :: more)
    (htr : w.transition r completed = .ok w2) : ∃ x, runTick cfg w c cons = .ok x := by
  unfold runTick
  rw [e1, e3]
  show ∃ x, runAt _ _ _ _ _ _ = _
  unfold runAt
  by_cases h1 : segMem cfg s.1 s.2.1 c.pos.i > c.ram
  · rw [if_pos h1]; exact ⟨_, rfl⟩
  · rw [if_neg h1, htr]
    by_cases h2 : (c.pos.opDone + 1 == c.pos.opTotal) = true
    · rw [if_pos h2]
      cases rest.isEmpty <;> exact ⟨_, rfl⟩
    · rw [if_neg h2]; exact ⟨_, rfl⟩

theorem advance_succeeds (cfg : Cfg) (w : Store) (c : Ctr) (cons : Int) (rd : CtrReady cfg w c) (hf : c.frozen = false) (hc : c.completed = false) :
    ∃ w' c' cons', advance cfg w c cons = .ok (w', c', cons') ∧ (c'.completed = false → CtrReady cfg w' c') := by
  have wf := rd.inv.wf
  obtain ⟨w1, c1, hs⟩ := seek_succeeds wf rd.st rd.par rd.inb ((rem_ne_nil_iff wf).mp (rd.more hc))
  obtain ⟨hst1, hsame, r, sgs, rest, sg, io, cpuT, more, e1, e2, e3, e4⟩ := seek_spec hs
  obtain ⟨wf1, hunf, hh1, hw1⟩ := (seek_cases wf).1 _ _ hs
  have hU : c.unfinished = r :: rest.map (·.1) := by
    rw [unfinished_eq, wf.idx, ← hunf, posUnf_of_headRunning hh1, e1]; rfl
  have hU1 : c1.unfinished = r :: rest.map (·.1) := hsame.unfinished.trans hU
  have hrn : r ∉ rest.map (·.1) := by
    have := unfinished_nodup rd.inv.nd
    rw [hU] at this
    exact (List.nodup_cons.mp this).1
  obtain ⟨s0, srest0⟩ := exactSt_cons rd.st hU
  have hb : r < w.st.size := rd.inb r (by rw [hU]; exact List.mem_cons_self)
  -- after `seek` the head operator is RUNNING, the others are still ASSIGNED
  have sr : w1.stOf r = running ∧ ∀ o ∈ rest.map (·.1), w1.stOf o = assigned := by
    rcases hw1 with ⟨hh, rfl⟩ | ⟨hh, r', hr', hw⟩
    · rw [hh] at s0; exact ⟨s0, srest0⟩
    · rw [← wf.idx, ← unfinished_eq, hU] at hr'
      cases hr'
      exact ⟨transition_self hw hb, fun o ho => by rw [transition_other hw fun e => hrn (e ▸ ho)]; exact srest0 o ho⟩
  have hpar1 : ParentsOK w1 (r :: rest.map (·.1)) := hU ▸ parentsOK_frame rd.par hst1.ops fun q hq => completed_final hst1 q hq
  have hinb1 : ∀ o ∈ r :: rest.map (·.1), o < w1.st.size := fun o ho => by rw [hst1.size]; exact rd.inb o (hU ▸ ho)
  have htr := transition_succeeds w1 r completed (hinb1 r List.mem_cons_self) (by rw [sr.1]; simp [validNext]) (fun e => by cases e)
  obtain ⟨⟨w', c', cons'⟩, hr⟩ := runTick_succeeds (cfg := cfg) (cons := cons) e1 e3 htr
  refine ⟨w', c', cons', by unfold advance; simp only [hf, hs, Bool.false_eq_true, ↓reduceIte]; exact hr, fun hc' => ?_⟩
  obtain ⟨wf', hid, hcase⟩ := runTick_wf wf1 e1 e2 e3 e4 hr
  have hc1 : c1.completed = false := by rw [hsame]; exact hc
  have hinv' : CtrInv cfg c' := ⟨wf', (hsame.ident.trans hid).ops ▸ rd.inv.nd⟩
  have stay : w' = w1 → c'.unfinished = c1.unfinished → headRunning c' = true → CtrReady cfg w' c' := fun ew hu hh => by
    rw [hU1] at hu
    rw [ew]
    exact ⟨hinv', exactSt_of hu (by rw [hh]; exact sr.1) sr.2, hu ▸ hpar1, hu ▸ hinb1, fun _ => (rem_ne_nil_iff wf').mpr (by rw [hu]; simp)⟩
  rcases hcase with ⟨ew, _, hu, hh, _⟩ | ⟨hw, hu, hh, hcc⟩ | ⟨ew, hu, hh, _, _⟩
  · exact stay ew hu (hh.trans hh1)
  · -- the head operator has completed: what is left is ASSIGNED
    have hrest : c'.unfinished ≠ [] := by
      rw [hcc, hc1] at hc'
      rw [hu]; simpa using hc'
    refine ⟨hinv', exactSt_of_assigned hh fun o ho => ?_, hu ▸ parentsOK_tail hpar1 (transition_ops hw) (fun q hq => completed_final_step hw hq)
      (transition_self hw (hinb1 r List.mem_cons_self)), fun o ho => ?_, fun _ => (rem_ne_nil_iff wf').mpr hrest⟩
    · rw [hu] at ho
      rw [transition_other hw fun e => hrn (e ▸ ho)]
      exact sr.2 o ho
    · rw [transition_size hw]
      exact hinb1 o (List.mem_cons_of_mem _ (hu ▸ ho))
  · exact stay ew hu hh

theorem tick_succeeds {cfg : Cfg} {w : Store} {c : Ctr} (cons : Int) (rd : CtrReady cfg w c) (hfc : c.completed = false → c.frozen = false) :
    ∃ w' c' cons', c.tick cfg w cons = .ok (w', c', cons') ∧ (c'.completed = false → CtrReady cfg w' c') := by
  unfold Ctr.tick
  cases hc : c.completed with
  | true => exact ⟨w, c, cons, rfl, fun h => by rw [hc] at h; cases h⟩
  | false =>
    obtain ⟨w1, c1, cons1, h1, r1⟩ := advance_succeeds cfg w c cons rd (hfc hc) hc
    simp only [Bool.false_eq_true, ↓reduceIte, h1]
    refine ⟨_, _, _, rfl, fun hx => ?_⟩
    have r := r1 hx
    exact ⟨r.inv.congr rfl rfl rfl, exactSt_congr r.st rfl rfl, r.par, r.inb, fun h => r.more h⟩

theorem transAll_succeeds (t : OpState) : ∀ (l : List Nat) (s : Store), l.Nodup → (∀ r ∈ l, r < s.st.size ∧ t ∈ validNext (s.stOf r)) → t ≠ running →
    ∃ s', s.transAll t l = .ok s' := by
  intro l
  induction l with
  | nil => intro s _ _ _; exact ⟨s, rfl⟩
  | cons r rs ih =>
    intro s hnd h ht
    rw [List.nodup_cons] at hnd
    obtain ⟨hb, hv⟩ := h r List.mem_cons_self
    have htr := transition_succeeds s r t hb hv (fun e => absurd e ht)
    obtain ⟨s', hs'⟩ := ih _ hnd.2 (fun x hx => by
      obtain ⟨hbx, hvx⟩ := h x (List.mem_cons_of_mem _ hx)
      exact ⟨transition_size htr ▸ hbx, by rw [transition_other htr fun e => hnd.1 (e ▸ hx)]; exact hvx⟩) ht
    exact ⟨s', transAll_cons_ok.mpr ⟨_, htr, hs'⟩⟩

theorem exactSt_mem {s : Store} {c : Ctr} {o : Nat} (h : ExactSt s c) (ho : o ∈ c.unfinished) :
    s.stOf o = assigned ∨ (headRunning c = true ∧ s.stOf o = running) := by
  cases hu : c.unfinished with
  | nil => rw [hu] at ho; cases ho
  | cons r rest =>
    obtain ⟨h1, h2⟩ := exactSt_cons h hu
    rcases List.mem_cons.mp (hu ▸ ho) with rfl | ho
    · rw [h1]; cases headRunning c <;> simp
    · exact .inl (h2 o ho)

theorem exactSt_assigned {s : Store} {c : Ctr} (h : ExactSt s c) (hb : headRunning c = false) : ∀ o ∈ c.unfinished, s.stOf o = assigned :=
  fun _ ho => (exactSt_mem h ho).resolve_right fun hr => by rw [hb] at hr; cases hr.1

/-- ASSIGNED → FAILED and RUNNING → FAILED are arrows of the table -/
theorem kill_succeeds {cfg : Cfg} {w : Store} {c : Ctr} (cons : Int) (rd : CtrReady cfg w c) : ∃ w' c' cons', c.kill w cons = .ok (w', c', cons') := by
  obtain ⟨w1, h1⟩ := transAll_succeeds failed c.unfinished w (unfinished_nodup rd.inv.nd)
    (fun r hr => ⟨rd.inb r hr, by rcases exactSt_mem rd.st hr with e | ⟨_, e⟩ <;> (rw [e]; simp [validNext])⟩) (by simp)
  unfold Ctr.kill
  rw [h1]
  exact ⟨_, _, _, rfl⟩

theorem suspend_succeeds {cfg : Cfg} {w : Store} {c : Ctr} (rd : CtrReady cfg w c) (hb : headRunning c = false) : ∃ w' c', c.suspend cfg w = .ok (w', c') := by
  obtain ⟨w1, h1⟩ := transAll_succeeds suspending c.unfinished w (unfinished_nodup rd.inv.nd)
    (fun r hr => ⟨rd.inb r hr, by rw [exactSt_assigned rd.st hb r hr]; simp [validNext]⟩) (by simp)
  unfold Ctr.suspend
  rw [h1]
  exact ⟨_, _, rfl⟩

theorem suspendTick_succeeds (w : Store) (c : Ctr) (hnd : c.ops.Nodup) (hst : ∀ o ∈ c.unfinished, o < w.st.size ∧ w.stOf o = suspending) :
    ∃ w' c', c.suspendTick w = .ok (w', c') := by
  unfold Ctr.suspendTick
  split
  · obtain ⟨w1, h1⟩ := transAll_succeeds pending c.unfinished w (unfinished_nodup hnd)
      (fun r hr => ⟨(hst r hr).1, by rw [(hst r hr).2]; simp [validNext]⟩) (by simp)
    rw [h1]
    exact ⟨_, _, rfl⟩
  · exact ⟨_, _, rfl⟩

theorem ctrReady_frame {cfg : Cfg} {w w' : Store} {d : Ctr} (h : CtrReady cfg w d) (hs : Steps w w')
    (hf : ∀ o ∈ d.unfinished, w'.stOf o = w.stOf o) : CtrReady cfg w' d := by
  refine ⟨h.inv, ?_, parentsOK_frame h.par hs.ops (fun q hq => completed_final hs q hq), fun o ho => by rw [hs.size]; exact h.inb o ho, h.more⟩
  have hst := h.st
  unfold ExactSt at hst ⊢
  cases hu : d.unfinished with
  | nil => trivial
  | cons r rest =>
    rw [hu] at hst hf
    exact ⟨by rw [hf r List.mem_cons_self]; exact hst.1, fun o ho => by rw [hf o (List.mem_cons_of_mem _ ho)]; exact hst.2 o ho⟩

def ReadyOn (cfg : Cfg) (w : Store) (c : Ctr) : Prop := c.completed = false → CtrReady cfg w c

theorem readyOn_framed (cfg : Cfg) : Framed (ReadyOn cfg) :=
  fun h hs hf hn => ctrReady_frame (h hn) hs fun o ho => hf o (mem_ownOf.mpr ⟨hn, ho⟩)

theorem readyOn_of_completed {cfg : Cfg} (w : Store) (c : Ctr) (h : c.completed = true) : ReadyOn cfg w c := fun hn => by rw [h] at hn; cases hn

theorem tick_ready {cfg : Cfg} {w w' : Store} {c c' : Ctr} {cons cons' : Int} (hfc : c.completed = false → c.frozen = false)
    (h : c.tick cfg w cons = .ok (w', c', cons')) (rd : ReadyOn cfg w c) : ReadyOn cfg w' c' := by
  rcases tick_ok h with ⟨_, rfl, rfl, _⟩ | ⟨hc, _⟩
  · exact rd
  · obtain ⟨_, _, _, h1, r1⟩ := tick_succeeds cons (rd hc) hfc
    rw [h] at h1
    cases h1
    exact r1

def ReadyAll (cfg : Cfg) (w : Store) (l : List Ctr) : Prop := ∀ c ∈ l, c.completed = false → CtrReady cfg w c

theorem readyAll_busy {cfg : Cfg} {w : Store} {l : List Ctr} (h : ReadyAll cfg w l) : BusyAll w l := by
  intro d hd hn o ho
  rcases exactSt_mem (h d hd hn).st ho with e | ⟨_, e⟩ <;> (rw [e]; simp [Busy])

theorem readyAll_frame {cfg : Cfg} {w w' : Store} {l : List Ctr} (h : ReadyAll cfg w l) (hs : Steps w w')
    (hf : ∀ o ∈ own l, w'.stOf o = w.stOf o) : ReadyAll cfg w' l :=
  fun d hd hn => ctrReady_frame (h d hd hn) hs (fun o ho => hf o (mem_own hd hn ho))

theorem readyAll_tail {cfg : Cfg} {R : Store → Ctr → Prop} {alive : Ctr → Bool} {w w1 : Store} {c c1 : Ctr} {cs : List Ctr}
    (hs : StepOK R alive w c w1 c1) (hnd : (own (c :: cs)).Nodup) (hrd : ReadyAll cfg w (c :: cs)) : ReadyAll cfg w1 cs ∧ (own cs).Nodup := by
  rw [own_cons] at hnd
  exact ⟨readyAll_frame (fun d hd => hrd d (List.mem_cons_of_mem _ hd)) hs.steps fun o ho =>
    hs.frame o fun hx => (List.nodup_append.mp hnd).2.2 o hx o ho rfl, (List.nodup_append.mp hnd).2.1⟩

theorem tickAll_succeeds {cfg : Cfg} {l : List Ctr} {w : Store} (cons : Int)
    (hall : ∀ c ∈ l, (c.completed = false → CtrReady cfg w c) ∧ CtrInv cfg c ∧ (c.completed = false → c.frozen = false)) (hnd : (own l).Nodup) :
    ∃ w' l' cons', tickAll cfg w l cons = .ok (w', l', cons') ∧ (∀ c' ∈ l', c'.completed = false → CtrReady cfg w' c') := by
  have hinv : ∀ c ∈ l, CtrInv cfg c ∧ (c.completed = false → c.frozen = false) := fun c hc => (hall c hc).2
  have hex : ∃ w' l' cons', tickAll cfg w l cons = .ok (w', l', cons') := by
    have hrd : ReadyAll cfg w l := fun c hc => (hall c hc).1
    clear hall
    induction l generalizing w cons with
    | nil => exact ⟨w, [], cons, rfl⟩
    | cons c cs ih =>
      obtain ⟨ci, hfc⟩ := hinv c List.mem_cons_self
      obtain ⟨w1, c1, cons1, ht⟩ : ∃ w1 c1 cons1, c.tick cfg w cons = .ok (w1, c1, cons1) := by
        cases hc : c.completed with
        | true => exact ⟨w, c, cons, by simp [Ctr.tick, hc]⟩
        | false =>
          obtain ⟨a, b, d, h, _⟩ := tick_succeeds cons (hrd c List.mem_cons_self hc) hfc
          exact ⟨a, b, d, h⟩
      obtain ⟨hrd1, hnd1⟩ := readyAll_tail (tick_stepOK (R := fun _ _ => True) ci hfc ht id) hnd hrd
      obtain ⟨w2, cs2, cons2, h2⟩ := ih cons1 hnd1 (fun d hd => hinv d (List.mem_cons_of_mem _ hd)) hrd1
      exact ⟨w2, c1 :: cs2, cons2, by rw [tickAll, ht]; simp only [h2]⟩
  obtain ⟨w', l', cons', h⟩ := hex
  obtain ⟨hp, _⟩ := tickAll_owned (R := ReadyOn cfg) h hinv fun c hc => tick_ready (hinv c hc).2
  obtain ⟨_, _, _, s3⟩ := hp.live (readyOn_framed cfg) hnd fun c hc => (hall c hc).1
  rw [filter_allAlive] at s3
  exact ⟨w', l', cons', h, s3⟩

theorem killIndividual_succeeds (cfg : Cfg) : ∀ (l : List Ctr) (w : Store) (cons : Int),
    ReadyAll cfg w l → (∀ c ∈ l, c.completed = true → c.mem ≤ c.ram) → (own l).Nodup →
    ∃ w' l' cons', killIndividual w l cons = .ok (w', l', cons') := by
  intro l
  induction l with
  | nil => intro w cons _ _ _; exact ⟨w, [], cons, rfl⟩
  | cons c cs ih =>
    intro w cons hrd hcm hnd
    have hcm' := fun d hd => hcm d (List.mem_cons_of_mem _ hd)
    by_cases hgt : c.mem > c.ram
    · have hn : c.completed = false := Bool.eq_false_iff.mpr fun hcc => Nat.not_le_of_gt hgt (hcm c List.mem_cons_self hcc)
      obtain ⟨w1, c1, cons1, hk⟩ := kill_succeeds cons (hrd c List.mem_cons_self hn)
      obtain ⟨hrd1, hnd1⟩ := readyAll_tail (kill_stepOK (R := fun _ _ => True) (fun _ _ _ => trivial) hn hk) hnd hrd
      obtain ⟨w2, cs2, cons2, h2⟩ := ih w1 cons1 hrd1 hcm' hnd1
      exact ⟨w2, c1 :: cs2, cons2, by rw [killIndividual]; simp only [hgt, ↓reduceIte, hk, h2]⟩
    · obtain ⟨hrd1, hnd1⟩ := readyAll_tail (StepOK.id (R := fun _ _ => True) w c) hnd hrd
      obtain ⟨w2, cs2, cons2, h2⟩ := ih w cons hrd1 hcm' hnd1
      exact ⟨w2, c :: cs2, cons2, by rw [killIndividual]; simp only [hgt, ↓reduceIte, h2]⟩

theorem killVictims_succeeds (cfg : Cfg) (capR : Nat) : ∀ (vs : List Ctr) (w : Store) (act : List Ctr) (cons : Int),
    (cids act).Nodup → (cids vs).Nodup → (∀ v ∈ vs, v ∈ act ∧ v.completed = false) →
    (own act).Nodup → ReadyAll cfg w act → (∀ c ∈ act, CtrInv cfg c) →
    ∃ w' act' cons', killVictims w capR act cons vs = .ok (w', act', cons') := by
  intro vs
  induction vs with
  | nil => intro w act cons _ _ _ _ _ _; exact ⟨w, act, cons, rfl⟩
  | cons v vs ih =>
    intro w act cons hcn hvnd hsub hnd hrd hinv
    by_cases hle : cons ≤ capR
    · exact ⟨w, act, cons, by simp [killVictims, hle]⟩
    · obtain ⟨hv, hvn⟩ := hsub v List.mem_cons_self
      obtain ⟨w1, v1, cons1, hk⟩ := kill_succeeds cons (hrd v hv hvn)
      obtain ⟨a1, a2, a3, a4, a5, _⟩ := kill_victim (readyOn_framed cfg) readyOn_of_completed hk hcn hvnd hsub hnd hrd hinv
      obtain ⟨w2, act2, cons2, h2⟩ := ih w1 _ cons1 a1 (List.nodup_cons.mp hvnd).2 a2 a3 a4 a5
      exact ⟨w2, act2, cons2, by rw [killVictims]; simp only [hle, ↓reduceIte, hk, h2]⟩

theorem oomKiller_succeeds (cfg : Cfg) (w : Store) (p : Pool) (hcn : (cids p.active).Nodup)
    (hrd : ReadyAll cfg w p.active) (hinv : ∀ c ∈ p.active, CtrInv cfg c ∧ (c.completed = true → c.mem ≤ c.ram)) (hnd : (own p.active).Nodup) :
    ∃ w' p', oomKiller w p = .ok (w', p') := by
  obtain ⟨w1, act1, cons1, hk⟩ := killIndividual_succeeds cfg p.active w p.consumed hrd (fun c hc => (hinv c hc).2) hnd
  obtain ⟨hp, linv⟩ := killIndividual_owned (R := ReadyOn cfg) readyOn_of_completed hk hinv
  obtain ⟨_, s1, _, s3⟩ := hp.live (readyOn_framed cfg) hnd hrd
  rw [filter_allAlive] at s1 s3
  unfold oomKiller
  simp only [hk]
  by_cases hle : cons1 ≤ p.capR
  · simp only [hle, ↓reduceIte]
    exact ⟨_, _, rfl⟩
  · simp only [hle, ↓reduceIte]
    have hcn1 : (cids act1).Nodup := by rw [cids_of_ident (killIndividual_ident hk)]; exact hcn
    obtain ⟨hsub, hvnd⟩ := victims_ok hcn1
    obtain ⟨w2, act2, cons2, hv⟩ := killVictims_succeeds cfg p.capR _ w1 act1 cons1 hcn1 hvnd hsub (s1.nodup hnd) s3 linv
    rw [hv]
    exact ⟨_, _, rfl⟩

def SuspOK (w : Store) (l : List Ctr) : Prop := ∀ c ∈ l, ∀ o ∈ c.unfinished, o < w.st.size ∧ w.stOf o = suspending

def SuspOn (w : Store) (c : Ctr) : Prop := ∀ o ∈ ownOf c, o < w.st.size ∧ w.stOf o = suspending

theorem suspOn_framed : Framed SuspOn := fun h hs hf o ho => ⟨hs.size ▸ (h o ho).1, hf o ho ▸ (h o ho).2⟩

theorem suspOK_iff {w : Store} {l : List Ctr} (hn : ∀ c ∈ l, c.completed = false) : SuspOK w l ↔ ∀ c ∈ l, SuspOn w c :=
  ⟨fun h c hc o ho => h c hc o (mem_ownOf.mp ho).2, fun h c hc o ho => h c hc o (mem_ownOf.mpr ⟨hn c hc, ho⟩)⟩

theorem suspTickList_succeeds (cfg : Cfg) : ∀ (l : List Ctr) (w : Store), (∀ c ∈ l, CtrInv cfg c ∧ c.completed = false) → (∀ c ∈ l, SuspOn w c) → (own l).Nodup →
    ∃ w' l', suspTickList w l = .ok (w', l') := by
  intro l
  induction l with
  | nil => intro w _ _ _; exact ⟨w, [], rfl⟩
  | cons c cs ih =>
    intro w hinv hs hnd
    obtain ⟨ci, hn⟩ := hinv c List.mem_cons_self
    rw [own_cons] at hnd
    obtain ⟨w1, c1, hk⟩ := suspendTick_succeeds w c ci.nd fun o ho => hs c List.mem_cons_self o (mem_ownOf.mpr ⟨hn, ho⟩)
    have hst := suspendTick_stepOK (R := fun _ _ => True) hn hk fun _ _ => trivial
    have hs1 : ∀ d ∈ cs, SuspOn w1 d := fun d hd => suspOn_framed (hs d (List.mem_cons_of_mem _ hd)) hst.steps fun o ho =>
      hst.frame o fun hx => (List.nodup_append.mp hnd).2.2 o hx o (mem_own_iff.mpr ⟨d, hd, ho⟩) rfl
    obtain ⟨w2, cs2, h2⟩ := ih w1 (fun d hd => hinv d (List.mem_cons_of_mem _ hd)) hs1 (List.nodup_append.mp hnd).2.1
    exact ⟨w2, c1 :: cs2, by rw [suspTickList, hk]; simp only [h2]⟩

structure PoolReady (cfg : Cfg) (w : Store) (p : Pool) : Prop where
  live : PoolLive cfg w p
  act : ReadyAll cfg w p.active
  sus : SuspOK w p.suspending

theorem PoolReady.susOn {cfg : Cfg} {w : Store} {p : Pool} (h : PoolReady cfg w p) : ∀ c ∈ p.suspending, SuspOn w c :=
  (suspOK_iff fun c hc => h.live.nc c (List.mem_append_right _ hc)).mp h.sus

theorem poolRun_succeeds {cfg : Cfg} {w : Store} {p : Pool} {n : Nat} (pinv : PoolInv p n) (m : MemOK p) (rd : PoolReady cfg w p) :
    ∃ w' p' res, poolRun cfg w p = .ok (w', p', res) ∧ PoolReady cfg w' p' := by
  have hl := rd.live
  have hnd := hl.nd
  rw [ownP_eq] at hnd
  obtain ⟨ndA, ndS, _⟩ := List.nodup_append.mp hnd
  have hinvS : ∀ c ∈ p.suspending, CtrInv cfg c ∧ c.completed = false :=
    fun c hc => ⟨hl.inv c (List.mem_append_right _ hc), hl.nc c (List.mem_append_right _ hc)⟩
  have hinvA : ∀ c ∈ p.active, CtrInv cfg c ∧ (c.completed = false → c.frozen = false) :=
    fun c hc => ⟨hl.inv c (List.mem_append_left _ hc), fun _ => (m.ok c hc).2.1⟩
  have rs := rd.susOn
  have hex : ∃ w' p' res, poolRun cfg w p = .ok (w', p', res) := by
    obtain ⟨w3, l3, hl3⟩ := suspTickList_succeeds cfg p.suspending w hinvS rs ndS
    obtain ⟨p3, h3⟩ : ∃ p3, suspTickAll w p = .ok (w3, p3) := by unfold suspTickAll; rw [hl3]; exact ⟨_, rfl⟩
    obtain ⟨_, a3, c3, _, _, _, ra3, _⟩ := suspTickAll_pass (readyOn_framed cfg) suspOn_framed hl (fun _ _ _ _ h => h) rd.act rs h3
    obtain ⟨w4, act4, cons4, h4, r4⟩ := tickAll_succeeds p.consumed
      (fun c hc => ⟨ra3 c hc, (hinvA c hc).1, (hinvA c hc).2⟩) ndA
    obtain ⟨t1, t2, _, _⟩ := tickAll_live h4 hinvA ndA (readyAll_busy ra3)
    obtain ⟨_, tk⟩ := tickAll_mem m.ok h4
    have hcn4 : (cids act4).Nodup := by rw [cids_of_ident (tickAll_ident h4)]; exact (List.nodup_append.mp pinv.nodup).1
    obtain ⟨w5, p5, h5⟩ := oomKiller_succeeds cfg w4 { p3 with active := act4, consumed := cons4 } hcn4 r4
      (fun c hc => ⟨t1 c hc, fun hcc => by have := (tk c hc).1 hcc; omega⟩) (t2.nodup ndA)
    rw [← a3, ← c3] at h4
    exact ⟨w5, (collect p5).1, (collect p5).2, by unfold poolRun; simp only [h3, h4, h5]⟩
  obtain ⟨w', p', res, h⟩ := hex
  obtain ⟨hi, _, _, _, ra, rs'⟩ := poolRun_pass (readyOn_framed cfg) readyOn_of_completed suspOn_framed pinv m hl
    (fun c hc => tick_ready (hinvA c hc).2) (fun _ _ _ _ h => h) rd.act rs h
  exact ⟨w', p', res, h, (poolRun_live pinv m hl h).1, ra, (suspOK_iff fun c hc => (hi c (List.mem_append_right _ hc)).2).mpr rs'⟩

/-- after a tick that neither finished nor froze the container, `can_suspend` is set exactly at an operator boundary -/
theorem tick_canSuspend {cfg : Cfg} {w w' : Store} {c c' : Ctr} {cons cons' : Int}
    (hc : c.completed = false) (hf : c.frozen = false) (wf : CtrWF cfg c) (h : c.tick cfg w cons = .ok (w', c', cons')) :
    c'.frozen = false → c'.canSuspend = true → headRunning c' = false := by
  obtain ⟨w1, c0, c1, hs, hr, rfl⟩ := tick_running hc hf h
  obtain ⟨_, _, r, sgs, rest, sg, io, cpuT, more, e1, e2, e3, e4⟩ := seek_spec hs
  obtain ⟨_, _, hcase⟩ := runTick_wf ((seek_cases wf).1 _ _ hs).1 e1 e2 e3 e4 hr
  intro hfr hcs
  rcases hcase with ⟨_, hfz, _⟩ | ⟨_, _, hh, _⟩ | ⟨_, _, _, hcs', _⟩
  · exact absurd (hfz.symm.trans hfr) (by simp)
  · exact hh
  · exact absurd (hcs'.symm.trans hcs) (by simp)

def FlagOK (l : List Ctr) : Prop := ∀ c ∈ l, c.completed = false → c.frozen = false → c.canSuspend = true → headRunning c = false

theorem tickAll_flag {cfg : Cfg} {l l' : List Ctr} {w w' : Store} {cons cons' : Int} (h : tickAll cfg w l cons = .ok (w', l', cons'))
    (hinv : ∀ c ∈ l, CtrInv cfg c ∧ (c.completed = false → c.frozen = false)) : FlagOK l' := by
  induction h using tickAll_induct with
  | nil => exact fun _ hc => by cases hc
  | step _ ht _ ih =>
    obtain ⟨ci, hfc⟩ := hinv _ List.mem_cons_self
    refine List.forall_mem_cons.mpr ⟨fun hn => ?_, ih fun d hd => hinv d (List.mem_cons_of_mem _ hd)⟩
    rcases tick_ok ht with ⟨hcc, _, rfl, _⟩ | ⟨hcc, _⟩
    · rw [hcc] at hn; cases hn
    · exact tick_canSuspend hcc (hfc hcc) ci.wf ht

theorem killIndividual_survivors {l l' : List Ctr} {w w' : Store} {cons cons' : Int} (h : killIndividual w l cons = .ok (w', l', cons')) :
    ∀ c' ∈ l', c'.completed = false → c' ∈ l := by
  induction h using killIndividual_induct with
  | nil => exact fun _ hc => by cases hc
  | kill _ _ hk _ ih =>
    intro c' hc' hn
    rcases List.mem_cons.mp hc' with rfl | hc'
    · rw [(kill_ok hk).2.1] at hn; cases hn
    · exact List.mem_cons_of_mem _ (ih c' hc' hn)
  | skip _ _ _ ih =>
    intro c' hc' hn
    rcases List.mem_cons.mp hc' with rfl | hc'
    · exact List.mem_cons_self
    · exact List.mem_cons_of_mem _ (ih c' hc' hn)

theorem killVictims_survivors {capR : Nat} {vs act act' : List Ctr} {w w' : Store} {cons cons' : Int}
    (h : killVictims w capR act cons vs = .ok (w', act', cons')) : ∀ c' ∈ act', c'.completed = false → c' ∈ act := by
  induction h using killVictims_induct with
  | stop => exact fun _ hc _ => hc
  | kill _ _ hk _ ih =>
    intro c' hc' hn
    rcases mem_replaceCtr (ih c' hc' hn) with rfl | ⟨hd, _⟩
    · rw [(kill_ok hk).2.1] at hn; cases hn
    · exact hd

theorem oomKiller_survivors {w w' : Store} {p p' : Pool} (h : oomKiller w p = .ok (w', p')) :
    ∀ c' ∈ p'.active, c'.completed = false → c' ∈ p.active := by
  obtain ⟨_, _, _, hk, ⟨_, _, rfl⟩ | ⟨_, _, _, hv, rfl⟩⟩ := oomKiller_ok h
  · exact killIndividual_survivors hk
  · exact fun c' hc' hn => killIndividual_survivors hk c' (killVictims_survivors hv c' hc' hn) hn

theorem poolRun_flag {cfg : Cfg} {w w' : Store} {p p' : Pool} {res : List Res} (m : MemOK p) (rd : PoolReady cfg w p)
    (h : poolRun cfg w p = .ok (w', p', res)) : FlagOK p'.active := by
  obtain ⟨w3, p3, w4, act4, cons4, p5, h3, h4, h5, rfl, _⟩ := poolRun_ok h
  obtain ⟨_, _, rfl⟩ := suspTickAll_ok h3
  have hf4 := tickAll_flag h4 fun c hc => ⟨rd.live.inv c (List.mem_append_left _ hc), fun _ => (m.ok c hc).2.1⟩
  intro c hc hn
  rw [(collect_spec p5).active] at hc
  exact hf4 c (oomKiller_survivors h5 c (List.mem_filter.mp hc).1 hn) hn

structure PoolReadyF (cfg : Cfg) (w : Store) (p : Pool) : Prop where
  rd : PoolReady cfg w p
  flag : FlagOK p.active

theorem PoolReadyF.live {cfg : Cfg} {w : Store} {p : Pool} (h : PoolReadyF cfg w p) : PoolLive cfg w p := h.rd.live

theorem PoolReadyF.reconcile {cfg : Cfg} {w : Store} {p : Pool} (h : PoolReadyF cfg w p) : PoolReadyF cfg w p.reconcile :=
  ⟨⟨h.live.reconcile, h.rd.act, h.rd.sus⟩, h.flag⟩

theorem findCtr_filter_ne (l : List Ctr) (a b : Nat) (h : a ≠ b) : findCtr (l.filter (·.cid != b)) a = findCtr l a := by
  unfold findCtr
  rw [List.find?_filter]
  congr 1
  funext x
  by_cases hx : x.cid = a
  · simp [hx, h]
  · simp [hx]

theorem doSuspends_succeeds {cfg : Cfg} {n : Nat} {l : List Nat} {w : Store} {p : Pool} (hnd : l.Nodup)
    (hreq : ∀ cid ∈ l, ∃ c, findCtr p.active cid = some c ∧ c.canSuspend = true) (pinv : PoolInv p n) (rd : PoolReadyF cfg w p)
    (hnf : ∀ c ∈ p.active, c.frozen = false) :
    ∃ w' p', doSuspends cfg w p l = .ok (w', p') ∧ PoolReadyF cfg w' p' ∧ PoolInv p' n ∧ (∀ c ∈ p'.active, c ∈ p.active) := by
  induction l generalizing w p with
  | nil => exact ⟨w, p, rfl, rd, pinv, fun _ h => h⟩
  | cons k ks ih =>
    rw [List.nodup_cons] at hnd
    obtain ⟨c, hfind, hcs⟩ := hreq k List.mem_cons_self
    have hcmem : c ∈ p.active := List.mem_of_find?_eq_some hfind
    have hcn : c.completed = false := rd.live.nc c (List.mem_append_left _ hcmem)
    have hrc := rd.rd.act c hcmem hcn
    obtain ⟨w1, c1, hsus⟩ := suspend_succeeds hrc (rd.flag c hcmem hcn (hnf c hcmem) hcs)
    obtain ⟨pinv1, l1, _, _, hother⟩ := suspendOne_live pinv rd.live hfind hsus
    obtain ⟨hw1, e1⟩ := suspend_ok hsus
    have hst : Steps w w1 := suspend_steps hsus
    have hnS := fun d hd => rd.live.nc d (List.mem_append_right _ hd)
    have hrd1 : PoolReadyF cfg w1 { p with suspending := p.suspending ++ [c1], active := p.active.filter (·.cid != k) } := by
      refine ⟨⟨l1, fun d hd => ?_, fun d hd o ho => ?_⟩, fun d hd => rd.flag d (List.mem_filter.mp hd).1⟩
      · obtain ⟨hd1, hd2⟩ := List.mem_filter.mp hd
        exact readyOn_framed cfg (rd.rd.act d hd1) hst (hother d (List.mem_append_left _ hd1) (by simpa using hd2))
      · rcases List.mem_append.mp hd with hd | hd
        · exact suspOn_framed (rd.rd.susOn d hd) hst
            (hother d (List.mem_append_right _ hd) (susp_cid_ne pinv hfind d hd)) o (mem_ownOf.mpr ⟨hnS d hd, ho⟩)
        · rw [List.mem_singleton.mp hd, e1] at ho
          exact ⟨hst.size ▸ hrc.inb o ho, (transAll_stOf hw1).1 o ho⟩
    obtain ⟨w2, p2, h2, r2, pinv2, hsub2⟩ := ih hnd.2
      (fun cid hcid => by
        obtain ⟨c', h1, h2⟩ := hreq cid (List.mem_cons_of_mem _ hcid)
        have hne : cid ≠ k := fun e => hnd.1 (e ▸ hcid)
        exact ⟨c', by rw [findCtr_filter_ne _ _ _ hne]; exact h1, h2⟩)
      pinv1 hrd1 (fun d hd => hnf d (List.mem_filter.mp hd).1)
    exact ⟨w2, p2, by rw [doSuspends]; simp only [hfind, hsus]; exact h2, r2, pinv2, fun d hd => (List.mem_filter.mp (hsub2 d hd)).1⟩

/-- assignments as the checked constructor builds them, in dependency order (every parent COMPLETED or earlier in the same assignment) -/
def AsgsReady (w : Store) (as : List Asg) : Prop :=
  ∀ a ∈ as, a.ops ≠ [] ∧ a.ops.Nodup ∧ (∀ r ∈ a.ops, w.segsOf r ≠ [] ∧ w.stOf r = assigned ∧ r < w.st.size) ∧ ParentsOK w a.ops

theorem mkCtr_ready (cfg : Cfg) (w : Store) (cid : Nat) (a : Asg) (h1 : a.ops ≠ []) (hnd : a.ops.Nodup)
    (hst : ∀ r ∈ a.ops, w.segsOf r ≠ [] ∧ w.stOf r = assigned ∧ r < w.st.size) (hpar : ParentsOK w a.ops) :
    CtrReady cfg w (mkCtr w cid a) ∧ (mkCtr w cid a).frozen = false ∧ (mkCtr w cid a).canSuspend = false := by
  obtain ⟨m1, _, _⟩ := mkCtr_inv cfg w cid a hnd (fun r hr => (hst r hr).1)
  exact ⟨⟨m1, exactSt_of_assigned (by simp [headRunning, mkCtr, mkPos]) fun o ho => (hst o ho).2.1, hpar, fun o ho => (hst o ho).2.2,
    fun _ => (rem_ne_nil_iff m1.wf).mpr h1⟩, rfl, rfl⟩

theorem startAll_added {cfg : Cfg} {w : Store} {as : List Asg} {p p' : Pool} {n n' : Nat} (h : startAll cfg w p n as = .ok (p', n'))
    (ha : AsgsReady w as) :
    p'.suspending = p.suspending ∧ ∀ c ∈ p'.active, c ∈ p.active ∨ (CtrReady cfg w c ∧ c.frozen = false ∧ c.canSuspend = false) := by
  induction h using startAll_induct with
  | nil => exact ⟨rfl, fun c hc => .inl hc⟩
  | @cons p n a rest _ _ _ _ _ ih =>
    obtain ⟨a1, a2, a3, a4⟩ := ha a List.mem_cons_self
    obtain ⟨i1, i2⟩ := ih fun b hb => ha b (List.mem_cons_of_mem _ hb)
    refine ⟨i1, fun c hc => (i2 c hc).elim (fun hc' => ?_) .inr⟩
    rcases List.mem_append.mp hc' with hc' | hc'
    · exact .inl hc'
    · rw [List.mem_singleton.mp hc']; exact .inr (mkCtr_ready cfg w n a a1 a2 a3 a4)

theorem startAll_ready {cfg : Cfg} {w : Store} {as : List Asg} {p p' : Pool} {n n' : Nat}
    (h : startAll cfg w p n as = .ok (p', n')) (rd : PoolReadyF cfg w p) (ha : AsgsReady w as) (hnd : (ownP p ++ as.flatMap (·.ops)).Nodup) :
    PoolReadyF cfg w p' := by
  have hbusy : ∀ a ∈ as, a.ops.Nodup ∧ ∀ r ∈ a.ops, w.segsOf r ≠ [] ∧ Busy (w.stOf r) := fun a haa => by
    obtain ⟨_, hn, hst, _⟩ := ha a haa
    exact ⟨hn, fun r hr => ⟨(hst r hr).1, by rw [(hst r hr).2.1]; exact .inl rfl⟩⟩
  obtain ⟨l', _⟩ := startAll_live h rd.live hbusy hnd
  obtain ⟨ks, ka⟩ := startAll_added (cfg := cfg) h ha
  refine ⟨⟨l', fun c hc hn => ?_, ks ▸ rd.rd.sus⟩, fun c hc hn hf hcs => ?_⟩
  · exact (ka c hc).elim (fun h1 => rd.rd.act c h1 hn) (·.1)
  · rcases ka c hc with h1 | h1
    · exact rd.flag c h1 hn hf hcs
    · rw [h1.2.2] at hcs; cases hcs

theorem verifySuspends_ok_iff {p : Pool} {l : List Nat} :
    verifySuspends p l = .ok () ↔ ∀ cid ∈ l, ∃ c, findCtr p.active cid = some c ∧ c.canSuspend = true := by
  induction l with
  | nil => simp [verifySuspends]
  | cons cid rest ih =>
    rw [verifySuspends_cons_ok, List.forall_mem_cons, ← ih]
    constructor
    · rintro ⟨c, h1, h2, h3⟩
      exact ⟨⟨c, h1, h2⟩, h3⟩
    · rintro ⟨⟨c, h1, h2⟩, h3⟩
      exact ⟨c, h1, h2, h3⟩

/-- the errors with which a pool tick refuses its commands before doing anything irreversible -/
def Err.isGate (e : Err) : Bool := e == .noContainer || e == .cannotSuspend || e == .overCpu || e == .overRam || e == .opCount

def GatesPass (cfg : Cfg) (p : Pool) (cm : Cmds) : Prop :=
  (cm.susp.isEmpty = true ∨ verifySuspends p cm.susp = .ok ()) ∧ (cm.asgs.isEmpty = true ∨ verifyAssignments cfg p cm.asgs = .ok ()) ∧
  ∀ a ∈ cm.asgs, opCountOk cfg a = true

theorem verifySuspends_err {p : Pool} {e : Err} : ∀ {l : List Nat}, verifySuspends p l = .error e → e.isGate = true ∧ l ≠ [] := by
  intro l
  induction l with
  | nil => intro h; cases h
  | cons k ks ih =>
    intro h
    refine ⟨?_, List.cons_ne_nil _ _⟩
    rw [verifySuspends] at h
    split at h
    · cases h; rfl
    · split at h
      · exact (ih h).1
      · cases h; rfl

theorem verifyAssignments_err {cfg : Cfg} {p : Pool} {as : List Asg} {e : Err} (h : verifyAssignments cfg p as = .error e) :
    e = .overCpu ∨ e = .overRam := by
  unfold verifyAssignments at h
  split at h
  · cases h; exact .inl rfl
  · split at h
    · cases h; exact .inr rfl
    · cases h

theorem startAll_err {cfg : Cfg} {w : Store} {e : Err} {l : List Asg} {p p' : Pool} {n n' : Nat}
    (h : startAll cfg w p n l = .error (e, p', n')) : e = .opCount ∧ ¬ ∀ a ∈ l, opCountOk cfg a = true := by
  induction h using startAll_err_induct with
  | here _ _ a _ _ ho he => exact ⟨he, fun hall => by rw [hall a List.mem_cons_self] at ho; cases ho⟩
  | later _ _ _ ih => exact ⟨ih.1, fun hall => ih.2 fun b hb => hall b (List.mem_cons_of_mem _ hb)⟩

theorem poolTick_refused {cfg : Cfg} {w : Store} {p : Pool} {n : Nat} {cm : Cmds} {e : Err} {st : Store × Pool × Nat} (pinv : PoolInv p n)
    (h : poolTick cfg w p n cm = .error (e, some st)) : e.isGate = true ∧ ¬ GatesPass cfg p cm := by
  obtain ⟨w', p', n'⟩ := st
  rcases poolTick_err h with ⟨hv, _⟩ | ⟨hs, hg, _⟩ | ⟨p1, hs, _, hst⟩
  · refine ⟨(verifySuspends_err hv).1, fun hp => ?_⟩
    rcases hp.1 with he | hok
    · exact (verifySuspends_err hv).2 (List.isEmpty_iff.mp he)
    · rw [hv] at hok; cases hok
  · -- phase 1 does not change what is available, so `verify_valid_assignment` answers for `p'` as for `p`
    have hav : verifyAssignments cfg p' cm.asgs = verifyAssignments cfg p cm.asgs := by
      obtain ⟨p0, hd, hp⟩ := susPhase_ok hs
      obtain ⟨_, _, _, ec, er⟩ := doSuspends_inv pinv hd
      unfold verifyAssignments
      rcases hp with rfl | ⟨_, rfl⟩ <;> simp only [Pool.reconcile, ec, er]
    unfold asgGate at hg
    split at hg
    · cases hg
    · rename_i hne
      rw [hav] at hg
      refine ⟨?_, fun hp => ?_⟩
      · rcases verifyAssignments_err hg with rfl | rfl <;> rfl
      · rcases hp.2.1 with he | hok
        · exact hne he
        · rw [hg] at hok; cases hok
  · obtain ⟨he, hcnt⟩ := startAll_err hst
    exact ⟨he ▸ rfl, fun hp => hcnt hp.2.2⟩

/-- a pool tick fails without leaving a state only inside phase 1 or inside phases 3–6 -/
theorem poolTick_err_none {cfg : Cfg} {w : Store} {p : Pool} {n : Nat} {cm : Cmds} {e : Err} (h : poolTick cfg w p n cm = .error (e, none)) :
    verifySuspends p cm.susp = .ok () ∧
    (susPhase cfg w p cm.susp = .error e ∨
     ∃ w1 p1 p2 n2, susPhase cfg w p cm.susp = .ok (w1, p1) ∧ startAll cfg w1 p1 n cm.asgs = .ok (p2, n2) ∧ poolRun cfg w1 p2 = .error e) := by
  unfold poolTick at h
  split at h
  · cases h
  · rename_i hv
    refine ⟨?_, ?_⟩
    · split at hv
      · rw [List.isEmpty_iff.mp ‹cm.susp.isEmpty = true›]; rfl
      · exact hv
    · split at h
      · cases h; exact .inl ‹_›
      · split at h
        · cases h
        · split at h
          · cases h
          · split at h
            · cases h; exact .inr ⟨_, _, _, _, ‹_›, ‹_›, ‹_›⟩
            · cases h

theorem susPhase_of_doSuspends {cfg : Cfg} {w w1 : Store} {p p0 : Pool} {l : List Nat} (h : doSuspends cfg w p l = .ok (w1, p0)) :
    ∃ p1, susPhase cfg w p l = .ok (w1, p1) ∧ (p1 = p0.reconcile ∨ (l = [] ∧ p1 = p0)) := by
  unfold susPhase
  split
  · rename_i he
    rw [List.isEmpty_iff.mp he] at h ⊢
    cases h
    exact ⟨_, rfl, .inr ⟨rfl, rfl⟩⟩
  · rw [h]; exact ⟨_, rfl, .inl rfl⟩

theorem susPhase_succeeds {cfg : Cfg} {w : Store} {p : Pool} {n : Nat} {l : List Nat}
    (g : PoolGoodMem cfg p n) (rd : PoolReadyF cfg w p) (hs : l.Nodup) (hv : verifySuspends p l = .ok ()) :
    ∃ w1 p1, susPhase cfg w p l = .ok (w1, p1) ∧ PoolReadyF cfg w1 p1 ∧ Shrinks (ownP p1) (ownP p) ∧
      ∀ o, o ∉ ownP p → w1.stOf o = w.stOf o := by
  obtain ⟨w1, p0, hd, r0, _, _⟩ := doSuspends_succeeds hs (verifySuspends_ok_iff.mp hv) g.1.1 rd fun c hc => (g.2.ok c hc).2.1
  obtain ⟨_, sh, fr⟩ := doSuspends_live hd g.1.1 rd.live
  obtain ⟨p1, hs1, rfl | ⟨_, rfl⟩⟩ := susPhase_of_doSuspends hd
  · exact ⟨w1, _, hs1, r0.reconcile, sh, fr⟩
  · exact ⟨w1, _, hs1, r0, sh, fr⟩

theorem AsgsReady.frame {w w1 : Store} {as : List Asg} (ha : AsgsReady w as) (hst : Steps w w1)
    (hf : ∀ a ∈ as, ∀ r ∈ a.ops, w1.stOf r = w.stOf r) : AsgsReady w1 as := by
  intro a haa
  obtain ⟨x1, x2, x3, x4⟩ := ha a haa
  refine ⟨x1, x2, fun r hr => ?_, parentsOK_frame x4 hst.ops fun q hq => completed_final hst q hq⟩
  obtain ⟨y1, y2, y3⟩ := x3 r hr
  exact ⟨hst.segsOf r ▸ y1, (hf a haa r hr).trans y2, hst.size ▸ y3⟩

/-- **a pool tick raises only at its gates.**  On a ready pool, with assignments built by the checked constructor in dependency order and with
distinct suspension requests, `ResourcePool.run_one_tick` either succeeds and leaves the pool ready for the next tick, or refuses the commands with
one of the gate errors (unknown or unsuspendable container, oversold CPU or RAM, wrong operator count) in a well-defined state. -/
theorem poolTick_raises_only_at_the_gates {cfg : Cfg} {w : Store} {p : Pool} {n : Nat} {cm : Cmds}
    (g : PoolGoodMem cfg p n) (rd : PoolReadyF cfg w p) (ha : AsgsReady w cm.asgs) (hs : cm.susp.Nodup)
    (hnd : (ownP p ++ cm.asgs.flatMap (·.ops)).Nodup) :
    (∃ w' p' n' res, poolTick cfg w p n cm = .ok (w', p', n', res) ∧ PoolReadyF cfg w' p') ∨
    (∃ e st, poolTick cfg w p n cm = .error (e, some st) ∧ e.isGate = true) := by
  have fwd : verifySuspends p cm.susp = .ok () → ∃ w1 p1, susPhase cfg w p cm.susp = .ok (w1, p1) ∧
      ∀ p2 n2, startAll cfg w1 p1 n cm.asgs = .ok (p2, n2) → ∃ w' p' res, poolRun cfg w1 p2 = .ok (w', p', res) ∧ PoolReadyF cfg w' p' := by
    intro hv
    obtain ⟨w1, p1, hs1, r1, sh1, fr1⟩ := susPhase_succeeds g rd hs hv
    refine ⟨w1, p1, hs1, fun p2 n2 hst => ?_⟩
    have m2 := startAll_mem (susPhase_mem g.2 hs1) hst
    obtain ⟨i2, _⟩ := startAll_inv (susPhase_inv g.1 hs1).1.1 hst
    -- phase 1 touched nothing of the assignments
    have ha1 : AsgsReady w1 cm.asgs := ha.frame (susPhase_steps hs1) fun a haa r hr =>
      fr1 r fun hx => (List.nodup_append.mp hnd).2.2 r hx r (List.mem_flatMap.mpr ⟨a, haa, hr⟩) rfl
    have r2 := startAll_ready hst r1 ha1 ((sh1.append (.refl _)).nodup hnd)
    obtain ⟨w6, p6, res, hr, r6⟩ := poolRun_succeeds i2 m2 r2.rd
    exact ⟨w6, p6, res, hr, r6, poolRun_flag m2 r2.rd hr⟩
  cases hpt : poolTick cfg w p n cm with
  | ok v =>
    obtain ⟨w', p', n', res⟩ := v
    obtain ⟨w1, p1, p2, hv, hs1, _, hst, hr⟩ := poolTick_ok hpt
    obtain ⟨_, _, hs1', hrun⟩ := fwd hv
    rw [hs1] at hs1'
    cases hs1'
    obtain ⟨_, _, _, hr', r⟩ := hrun p2 n' hst
    rw [hr] at hr'
    cases hr'
    exact .inl ⟨_, _, _, _, rfl, r⟩
  | error x =>
    obtain ⟨e, _ | st⟩ := x
    · exfalso
      obtain ⟨hv, hcase⟩ := poolTick_err_none hpt
      obtain ⟨w1, p1, hs1, hrun⟩ := fwd hv
      rcases hcase with h | ⟨_, _, p2, n2, hs1', hst, hr⟩
      · rw [hs1] at h; cases h
      · rw [hs1] at hs1'
        cases hs1'
        obtain ⟨_, _, _, hr', _⟩ := hrun p2 n2 hst
        rw [hr] at hr'
        cases hr'
    · exact .inr ⟨e, st, rfl, (poolTick_refused g.1.1 hpt).1⟩

theorem poolTick_ready_of_ok {cfg : Cfg} {w w' : Store} {p p' : Pool} {n n' : Nat} {cm : Cmds} {res : List Res}
    (g : PoolGoodMem cfg p n) (rd : PoolReadyF cfg w p) (ha : AsgsReady w cm.asgs) (hs : cm.susp.Nodup)
    (hnd : (ownP p ++ cm.asgs.flatMap (·.ops)).Nodup) (h : poolTick cfg w p n cm = .ok (w', p', n', res)) : PoolReadyF cfg w' p' := by
  rcases poolTick_raises_only_at_the_gates g rd ha hs hnd with ⟨_, _, _, _, he, hr⟩ | ⟨_, _, he, _⟩
  · rw [h] at he
    cases he
    exact hr
  · rw [h] at he
    cases he

theorem poolReadyF_frame {cfg : Cfg} {s s1 : Store} {q : Pool} (h : PoolReadyF cfg s q) (hs : Steps s s1)
    (hf : ∀ o ∈ ownP q, s1.stOf o = s.stOf o) : PoolReadyF cfg s1 q := by
  have hact : ∀ o ∈ own q.active, o ∈ ownP q := fun o ho => by rw [ownP_eq]; exact List.mem_append_left _ ho
  have hnS := fun c hc => h.live.nc c (List.mem_append_right _ hc)
  refine ⟨⟨poolLive_frame h.live hf, readyAll_frame h.rd.act hs (fun o ho => hf o (hact o ho)), ?_⟩, h.flag⟩
  refine (suspOK_iff hnS).mpr fun c hc => suspOn_framed (h.rd.susOn c hc) hs fun o ho => hf o ?_
  rw [ownP_eq]
  exact List.mem_append_right _ (mem_own_iff.mpr ⟨c, hc, ho⟩)

/-- the loop invariant of `execPools`, with readiness -/
structure PoolsReady (cfg : Cfg) (asgs : List Asg) (s : Store) (n : Nat) (done todo : List Pool) : Prop where
  live : PoolsLive cfg asgs s n done todo
  rdy : ∀ p ∈ done ++ todo, PoolReadyF cfg s p
  par : ∀ a ∈ pendFor asgs done.length, a.ops ≠ [] ∧ ParentsOK s a.ops ∧ ∀ r ∈ a.ops, r < s.st.size

theorem poolsReady_step {cfg : Cfg} {sus : List (Nat × Nat)} {asgs : List Asg} {s s1 : Store} {n n1 : Nat} {done rest : List Pool} {p p1 : Pool} {r : List Res}
    (hJ : PoolsReady cfg asgs s n done (p :: rest)) (hp : poolTick cfg s p n (cmdsFor done.length sus asgs) = .ok (s1, p1, n1, r))
    (r1 : PoolReadyF cfg s1 p1) : PoolsReady cfg asgs s1 n1 (done ++ [p1]) rest := by
  have hst : Steps s s1 := poolTick_steps_ok hp
  have hfr := poolsLive_step_frame hJ.live hp
  have hother : ∀ q ∈ done ++ rest, PoolReadyF cfg s1 q := fun q hq =>
    poolReadyF_frame (hJ.rdy q (mem_append_cons_of_mem p hq)) hst (hfr q hq)
  refine ⟨(poolsLive_step hJ.live hp).1, forall_mem_stepped r1 hother, ?_⟩
  · rw [List.length_append, List.length_singleton]
    intro a ha'
    obtain ⟨y1, y2, y3⟩ := hJ.par a (mem_pendFor_succ ha')
    exact ⟨y1, parentsOK_frame y2 hst.ops (fun q hq => completed_final hst q hq), fun r hr => by rw [hst.size]; exact y3 r hr⟩

theorem poolsReady_head {cfg : Cfg} {sus : List (Nat × Nat)} {asgs : List Asg} {s : Store} {n : Nat} {done rest : List Pool} {p : Pool}
    (hJ : PoolsReady cfg asgs s n done (p :: rest)) :
    AsgsReady s (cmdsFor done.length sus asgs).asgs ∧ (ownP p ++ (cmdsFor done.length sus asgs).asgs.flatMap (·.ops)).Nodup := by
  obtain ⟨hnd, haok, hsub⟩ := poolsLive_head (sus := sus) hJ.live
  refine ⟨?_, hnd⟩
  intro a haa
  obtain ⟨x1, x2⟩ := haok a haa
  obtain ⟨y1, y2, y3⟩ := hJ.par a (hsub a haa)
  exact ⟨y1, x1, fun r hr => ⟨(x2 r hr).1, (x2 r hr).2, y3 r hr⟩, y2⟩

theorem execPools_raises_only_at_the_gates (cfg : Cfg) (sus : List (Nat × Nat)) (asgs : List Asg)
    (hsus : ∀ i, ((sus.filter (·.1 == i)).map (·.2)).Nodup) :
    ∀ (todo : List Pool) (s : Store) (n : Nat) (done : List Pool) (res : List Res), PoolsReady cfg asgs s n done todo →
    (∃ s' ps n' res', execPools cfg sus asgs s n done todo res = .ok (s', ps, n', res') ∧ PoolsReady cfg asgs s' n' ps []) ∨
    (∃ e st, execPools cfg sus asgs s n done todo res = .error (e, some st) ∧ e.isGate = true ∧
      ∃ k p, todo[k]? = some p ∧ ¬ GatesPass cfg p (cmdsFor (done.length + k) sus asgs)) := by
  intro todo
  induction todo with
  | nil => intro s n done res hJ; exact .inl ⟨s, done, n, res, rfl, hJ⟩
  | cons p rest ih =>
    intro s n done res hJ
    obtain ⟨gp, _⟩ := hJ.live.pools p (by simp)
    obtain ⟨ha, hnd⟩ := poolsReady_head (sus := sus) hJ
    rcases poolTick_raises_only_at_the_gates gp (hJ.rdy p (by simp)) ha (hsus done.length) hnd with ⟨s1, p1, n1, r, hp, r1⟩ | ⟨e, st, hp, hg⟩
    · rcases ih s1 n1 (done ++ [p1]) (res ++ r) (poolsReady_step hJ hp r1) with ⟨s', ps, n', res', h2, r2⟩ | ⟨e, st, h2, hg, k, q, hk, hq⟩
      · exact .inl ⟨s', ps, n', res', by rw [execPools, hp]; exact h2, r2⟩
      · refine .inr ⟨e, st, by rw [execPools, hp]; exact h2, hg, k + 1, q, by simpa using hk, ?_⟩
        rw [List.length_append, List.length_singleton, Nat.add_assoc, Nat.add_comm 1 k] at hq
        exact hq
    · obtain ⟨s1, p1, n1⟩ := st
      exact .inr ⟨e, (s1, done ++ p1 :: rest, n1), by rw [execPools, hp], hg, 0, p, rfl, (poolTick_refused gp.1.1 hp).2⟩

end Eudoxia
