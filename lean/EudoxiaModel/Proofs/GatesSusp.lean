import EudoxiaModel.Proofs.Progress
namespace Eudoxia
open OpState Extracted

theorem execPools_succeeds_of_gates_susp (cfg : Cfg) (sus : List (Nat × Nat)) (asgs : List Asg) (hsus : ∀ i, ((sus.filter (·.1 == i)).map (·.2)).Nodup)
    {todo done : List Pool} {s : Store} {n : Nat} (res : List Res) (hJ : PoolsReady cfg asgs s n done todo)
    (hv : ∀ k p, todo[k]? = some p → GatesPass cfg p (cmdsFor (done.length + k) sus asgs)) :
    ∃ s' ps n' res', execPools cfg sus asgs s n done todo res = .ok (s', ps, n', res') ∧ PoolsReady cfg asgs s' n' ps [] := by
  rcases execPools_raises_only_at_the_gates cfg sus asgs hsus todo s n done res hJ with h | ⟨_, _, _, _, k, p, hk, hp⟩
  · exact h
  · exact absurd (hv k p hk) hp

end Eudoxia
