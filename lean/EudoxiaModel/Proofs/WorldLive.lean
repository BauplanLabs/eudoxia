import EudoxiaModel.Proofs.Live
import EudoxiaModel.Proofs.Built
import EudoxiaModel.Proofs.GatesSusp
/-! From the pools to the world: a chain of accepted `Assignment` constructions touches nothing the pools own, so the loop invariants hold when
    the executor starts, and `Executor.run_one_tick` raises only at its gates. -/
namespace Eudoxia
open OpState Extracted

theorem built_frame {w w' : World} {as : List Asg} (hb : Built w as w') :
    w'.pools = w.pools ∧ w'.cfg = w.cfg ∧ w'.nextCid = w.nextCid ∧ Steps w.store w'.store := by
  induction hb with
  | nil => exact ⟨rfl, rfl, rfl, .refl _⟩
  | cons hm _ ih =>
    obtain ⟨p1, p2, p3⟩ := mkAssignment_pools_ok hm
    obtain ⟨i1, i2, i3, i4⟩ := ih
    exact ⟨by rw [i1, p1], by rw [i2, p2], by rw [i3, p3], (mkAssignment_steps_ok hm).trans i4⟩

theorem Built.pools {w w' : World} {as : List Asg} (hb : Built w as w') : w'.pools = w.pools := (built_frame hb).1

theorem Built.steps {w w' : World} {as : List Asg} (hb : Built w as w') : Steps w.store w'.store := (built_frame hb).2.2.2

theorem pendFor_zero (asgs : List Asg) : pendFor asgs 0 = asgs := by
  unfold pendFor
  exact List.filter_eq_self.mpr (fun a _ => by simp)

/-- `PoolLive` stands beside the `PoolReadyF` that contains it so that the first two components are what `C02.WorldLive.pools` and
`poolsLive_of_built` ask for. -/
structure WorldReady (w : World) : Prop where
  pools : ∀ p ∈ w.pools, PoolGoodMem w.cfg p w.nextCid ∧ PoolLive w.cfg w.store p ∧ PoolReadyF w.cfg w.store p
  nd : (w.pools.flatMap ownP).Nodup

theorem WorldReady.live {w : World} (h : WorldReady w) {p : Pool} (hp : p ∈ w.pools) :
    PoolGoodMem w.cfg p w.nextCid ∧ PoolLive w.cfg w.store p := ⟨(h.pools p hp).1, (h.pools p hp).2.1⟩

theorem WorldReady.ready {w : World} (h : WorldReady w) {p : Pool} (hp : p ∈ w.pools) : PoolReadyF w.cfg w.store p := (h.pools p hp).2.2

/-- what the pools own is busy, so the chain of constructions, which takes PENDING or FAILED operators only, did not touch it -/
theorem poolsLive_of_built {w0 w1 : World} {asgs : List Asg}
    (hpools : ∀ p ∈ w0.pools, PoolGoodMem w0.cfg p w0.nextCid ∧ PoolLive w0.cfg w0.store p) (hnd : (w0.pools.flatMap ownP).Nodup)
    (hb : Built w0 asgs w1) (hseg : ∀ a ∈ asgs, ∀ r ∈ a.ops, w0.store.segsOf r ≠ []) :
    PoolsLive w1.cfg asgs w1.store w1.nextCid [] w1.pools ∧ ∀ p ∈ w1.pools, ∀ o ∈ ownP p, w1.store.stOf o = w0.store.stOf o := by
  obtain ⟨e1, e2, e3, est⟩ := built_frame hb
  have howned : ∀ p ∈ w0.pools, ∀ o ∈ ownP p, o ∉ asgs.flatMap (·.ops) := by
    intro p hp o ho hx
    obtain ⟨c, hc, hoc⟩ := mem_own_iff.mp ho
    exact not_busy_of_assignable (hb.assigned o hx).1 ((hpools p hp).2.busyOn c hc o hoc)
  rw [e1, e2, e3]
  refine ⟨⟨fun p hp => ?_, ?_, ?_⟩, fun p hp o ho => hb.others o (howned p hp o ho)⟩
  · exact ⟨(hpools p hp).1, poolLive_frame (hpools p hp).2 fun o ho => hb.others o (howned p hp o ho)⟩
  · simp only [List.nil_append, List.length_nil, pendFor_zero, opsOf]
    refine List.nodup_append.mpr ⟨hnd, hb.nodup, fun o ho _ hb' e => ?_⟩
    obtain ⟨p, hp, hop⟩ := List.mem_flatMap.mp ho
    exact howned p hp o hop (e ▸ hb')
  · simp only [List.length_nil, pendFor_zero]
    intro a ha
    have hsub : a.ops.Sublist (asgs.flatMap (·.ops)) := by
      rw [List.flatMap_def]; exact List.sublist_flatten_of_mem (List.mem_map_of_mem ha)
    exact ⟨hsub.nodup hb.nodup, fun r hr' => ⟨est.segsOf r ▸ hseg a ha r hr', (hb.assigned r (hsub.subset hr')).2⟩⟩

theorem poolsReady_of_built (w0 w1 : World) (asgs : List Asg)
    (hr : WorldReady w0) (hb : Built w0 asgs w1) (hseg : ∀ a ∈ asgs, ∀ r ∈ a.ops, w0.store.segsOf r ≠ [])
    (hpar : ∀ a ∈ asgs, ParentsOK w1.store a.ops) : PoolsReady w1.cfg asgs w1.store w1.nextCid [] w1.pools := by
  obtain ⟨hl, hfr⟩ := poolsLive_of_built (fun _ hp => hr.live hp) hr.nd hb hseg
  obtain ⟨e1, e2, _, est⟩ := built_frame hb
  refine ⟨hl, fun p hp => ?_, ?_⟩
  · rw [List.nil_append] at hp
    exact e2 ▸ poolReadyF_frame (hr.ready (e1 ▸ hp)) est (hfr p hp)
  · simp only [List.length_nil, pendFor_zero]
    intro a ha
    refine ⟨(hb.pos a ha).1, hpar a ha, fun r hr' => ?_⟩
    -- an operator outside the table reads as PENDING, and these are ASSIGNED
    have hst := (hb.assigned r (List.mem_flatMap.mpr ⟨a, ha, hr'⟩)).2
    apply Decidable.byContradiction
    intro hge
    have : w1.store.stOf r = pending := by
      unfold Store.stOf
      rw [Array.getD_eq_getD_getElem?, Array.getElem?_eq_none (by omega)]
      rfl
    rw [this] at hst; cases hst

theorem worldReady_of_poolsReady {w1 : World} {asgs : List Asg} {s : Store} {ps : List Pool} {n : Nat}
    (hfin : PoolsReady w1.cfg asgs s n ps []) : WorldReady { w1 with store := s, pools := ps, nextCid := n } := by
  refine ⟨fun p hp => ?_, ?_⟩
  · have hp' : p ∈ ps ++ [] := by simpa using hp
    exact ⟨(hfin.live.pools p hp').1, (hfin.live.pools p hp').2, hfin.rdy p hp'⟩
  · have := hfin.live.nd
    rw [List.append_nil] at this
    exact (List.nodup_append.mp this).1

/-- **`Executor.run_one_tick` raises only at its gates.**  From a ready world, after any chain of accepted `Assignment` constructions whose operator
lists are in dependency order and have segments, and with suspension requests that name each container at most once, the executor tick either
succeeds and leaves a ready world, or refuses the commands up front (unknown pool, unknown or unsuspendable container, oversold CPU or RAM, wrong
operator count) in a well-defined state. -/
theorem execTick_raises_only_at_the_gates (w0 w1 : World) (asgs : List Asg) (sus : List (Nat × Nat))
    (hr : WorldReady w0) (hb : Built w0 asgs w1) (hseg : ∀ a ∈ asgs, ∀ r ∈ a.ops, w0.store.segsOf r ≠ [])
    (hpar : ∀ a ∈ asgs, ParentsOK w1.store a.ops) (hsus : ∀ i, ((sus.filter (·.1 == i)).map (·.2)).Nodup) :
    (∃ w2 res, w1.execTick sus asgs = .ok (w2, res) ∧ WorldReady w2) ∨
    (∃ e st, w1.execTick sus asgs = .error (e, some st) ∧ (e.isGate = true ∨ e = .unknownPool)) := by
  have hJ := poolsReady_of_built w0 w1 asgs hr hb hseg hpar
  unfold World.execTick
  split
  · exact .inr ⟨.unknownPool, w1, rfl, .inr rfl⟩
  · rcases execPools_raises_only_at_the_gates w1.cfg sus asgs hsus w1.pools w1.store w1.nextCid [] [] hJ with ⟨s, ps, n, res, hex, hfin⟩ | ⟨e, st, hex, hg, _⟩
    · rw [hex]
      exact .inl ⟨_, res, rfl, worldReady_of_poolsReady hfin⟩
    · obtain ⟨s, ps, n⟩ := st
      rw [hex]
      exact .inr ⟨e, _, rfl, .inl hg⟩

theorem execTick_succeeds_of_gates_susp (w0 w1 : World) (asgs : List Asg) (sus : List (Nat × Nat))
    (hr : WorldReady w0) (hb : Built w0 asgs w1) (hseg : ∀ a ∈ asgs, ∀ r ∈ a.ops, w0.store.segsOf r ≠ [])
    (hpar : ∀ a ∈ asgs, ParentsOK w1.store a.ops) (hsus : ∀ i, ((sus.filter (·.1 == i)).map (·.2)).Nodup)
    (hpoolA : ∀ a ∈ asgs, a.pool < w1.pools.length) (hpoolS : ∀ x ∈ sus, x.1 < w1.pools.length)
    (hv : ∀ k p, w1.pools[k]? = some p →
      ((cmdsFor k sus asgs).susp.isEmpty = true ∨ verifySuspends p (cmdsFor k sus asgs).susp = .ok ()) ∧
      ((cmdsFor k sus asgs).asgs.isEmpty = true ∨ verifyAssignments w1.cfg p (cmdsFor k sus asgs).asgs = .ok ()))
    (hcnt : ∀ a ∈ asgs, opCountOk w1.cfg a = true) :
    ∃ w2 res, w1.execTick sus asgs = .ok (w2, res) ∧ WorldReady w2 ∧ w2.pipes = w1.pipes ∧ w2.cfg = w1.cfg ∧ Steps w1.store w2.store := by
  have hJ := poolsReady_of_built w0 w1 asgs hr hb hseg hpar
  obtain ⟨s, ps, n, res, hex, hfin⟩ := execPools_succeeds_of_gates_susp w1.cfg sus asgs hsus [] hJ fun k p hk => by
    rw [List.length_nil, Nat.zero_add]
    exact ⟨(hv k p hk).1, (hv k p hk).2, fun a ha => hcnt a (List.mem_filter.mp ha).1⟩
  have hno : (sus.any (fun s => decide (s.1 ≥ w1.pools.length)) || asgs.any (fun a => decide (a.pool ≥ w1.pools.length))) = false := by
    simp only [Bool.or_eq_false_iff, List.any_eq_false, decide_eq_true_eq]
    exact ⟨fun x hx => by have := hpoolS x hx; omega, fun a ha => by have := hpoolA a ha; omega⟩
  refine ⟨{ w1 with store := s, pools := ps, nextCid := n }, res, ?_, worldReady_of_poolsReady hfin, rfl, rfl, execPools_steps_ok hex⟩
  unfold World.execTick
  rw [hno]
  simp only [Bool.false_eq_true, ↓reduceIte, hex]

theorem execTick_succeeds_of_gates (w0 w1 : World) (asgs : List Asg)
    (hr : WorldReady w0) (hb : Built w0 asgs w1) (hseg : ∀ a ∈ asgs, ∀ r ∈ a.ops, w0.store.segsOf r ≠ [])
    (hpar : ∀ a ∈ asgs, ParentsOK w1.store a.ops) (hpool : ∀ a ∈ asgs, a.pool < w1.pools.length)
    (hv : ∀ k p, w1.pools[k]? = some p → (asgs.filter (·.pool == k)).isEmpty = true ∨ verifyAssignments w1.cfg p (asgs.filter (·.pool == k)) = .ok ())
    (hcnt : ∀ a ∈ asgs, opCountOk w1.cfg a = true) :
    ∃ w2 res, w1.execTick [] asgs = .ok (w2, res) ∧ WorldReady w2 ∧ w2.pipes = w1.pipes ∧ w2.cfg = w1.cfg ∧ Steps w1.store w2.store :=
  execTick_succeeds_of_gates_susp w0 w1 asgs [] hr hb hseg hpar (fun _ => List.nodup_nil) hpool (fun _ h => nomatch h)
    (fun k p hk => ⟨.inl rfl, hv k p hk⟩) hcnt

/-- non-vacuity of `WorldReady` -/
theorem fresh_world_ready (cfg : Cfg) (store : Store) (pipes : Array PipeInfo) (caps : List (Nat × Nat)) :
    WorldReady { cfg := cfg, store := store, pools := caps.map (fun c => Pool.fresh c.1 c.2), pipes := pipes } := by
  refine ⟨?_, ?_⟩
  · intro p hp
    simp only [List.mem_map] at hp
    obtain ⟨c, _, rfl⟩ := hp
    have hl : PoolLive cfg store (Pool.fresh c.1 c.2) := .of_mem (fun c hc => by simp [Pool.fresh] at hc) (by simp [ownP, own, Pool.fresh])
    exact ⟨⟨⟨poolInv_fresh _ _ _, by simp [Pool.NonNeg, Pool.fresh]⟩, memOK_fresh _ _⟩, hl,
      ⟨hl, by intro c hc; simp [Pool.fresh] at hc, by intro c hc; simp [Pool.fresh] at hc⟩, by intro c hc; simp [Pool.fresh] at hc⟩
  · have : ∀ (l : List (Nat × Nat)), (l.map (fun c => Pool.fresh c.1 c.2)).flatMap ownP = [] := by
      intro l; induction l with
      | nil => rfl
      | cons x xs ih => simp only [List.map_cons, List.flatMap_cons, ih]; simp [ownP, own, Pool.fresh]
    simp only [this]
    exact List.nodup_nil

end Eudoxia
