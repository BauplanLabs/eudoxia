import EudoxiaModel.Proofs.Profile
/-! The run of a container along its list of demands: `n` fitting ticks consume the first `n` demands, and the operator index
    (`_current_op_idx`: how many of its operators are done) is always the operator of the next documented demand — so when the
    container ends it is the specification's `completedOps`. -/
namespace Eudoxia

def Desc : List (Nat × Nat) → Prop
  | [] => True
  | [x] => x.1 = 0
  | x :: y :: r => (x.1 = y.1 ∨ x.1 = y.1 + 1) ∧ Desc (y :: r)

theorem Desc.tail {x : Nat × Nat} {l : List (Nat × Nat)} (h : Desc (x :: l)) : Desc l := by
  cases l with
  | nil => trivial
  | cons y r => exact h.2

theorem Desc.le_head : ∀ {l : List (Nat × Nat)} {y : Nat × Nat}, Desc (y :: l) → ∀ x ∈ y :: l, x.1 ≤ y.1
  | [], y, _, x, hx => by simp at hx; rw [hx]; exact Nat.le_refl _
  | z :: r, y, h, x, hx => by
    rcases List.mem_cons.mp hx with rfl | hx
    · exact Nat.le_refl _
    · have := Desc.le_head h.2 x hx
      rcases h.1 with e | e <;> omega

theorem desc_block (k : Nat) (l : List (Nat × Nat)) (hl : Desc l) (h0 : l = [] → k = 0) (h1 : ∀ y r, l = y :: r → k = y.1 + 1) :
    ∀ (ms : List Nat), Desc (ms.map (fun m => (k, m)) ++ l)
  | [] => hl
  | [m] => by
    cases l with
    | nil => exact h0 rfl
    | cons y r => exact ⟨Or.inr (h1 y r rfl), hl⟩
  | m :: m' :: ms => ⟨Or.inl rfl, desc_block k l hl h0 h1 (m' :: ms)⟩

theorem labelOps_desc (cfg : Cfg) (cpu : Nat) : ∀ (os : List (Nat × List Seg)), (∀ o ∈ os, o.2 ≠ []) →
    Desc (labelOps cfg cpu os) ∧ ∀ y r, labelOps cfg cpu os = y :: r → y.1 + 1 = os.length
  | [], _ => ⟨trivial, fun _ _ h => by cases h⟩
  | o :: os, hseg => by
    have hos : ∀ x ∈ os, x.2 ≠ [] := fun x hx => hseg x (List.mem_cons_of_mem _ hx)
    obtain ⟨ih1, ih2⟩ := labelOps_desc cfg cpu os hos
    refine ⟨desc_block os.length _ ih1 (fun e => by rw [(labelOps_eq_nil_iff cfg cpu hos).mp e]; rfl)
      (fun y r e => (ih2 y r e).symm) _, fun y r e => ?_⟩
    rw [labelOps] at e
    cases hm : opRem cfg cpu o.2 with
    | nil => exact absurd hm (opRem_ne_nil cfg cpu (hseg o List.mem_cons_self))
    | cons m ms => rw [hm] at e; cases e; rfl

/-- the operator index plus the label of the next demand is the number of operators `L` -/
def IdxOK (cfg : Cfg) (L : Nat) (c : Ctr) : Prop :=
  Desc (remL cfg c) ∧ (remL cfg c = [] → c.curOpIdx = L) ∧ (∀ k m tl, remL cfg c = (k, m) :: tl → c.curOpIdx + k + 1 = L)

theorem IdxOK.desc {cfg : Cfg} {L : Nat} {c : Ctr} (h : IdxOK cfg L c) : Desc (remL cfg c) := h.1
theorem IdxOK.done {cfg : Cfg} {L : Nat} {c : Ctr} (h : IdxOK cfg L c) : remL cfg c = [] → c.curOpIdx = L := h.2.1
theorem IdxOK.next {cfg : Cfg} {L : Nat} {c : Ctr} (h : IdxOK cfg L c) :
    ∀ k m tl, remL cfg c = (k, m) :: tl → c.curOpIdx + k + 1 = L := h.2.2

theorem idxOK_new (cfg : Cfg) (w : Store) (cid : Nat) (a : Asg) (hseg : ∀ r ∈ a.ops, w.segsOf r ≠ []) :
    IdxOK cfg a.ops.length (mkCtr w cid a) := by
  obtain ⟨d1, d2⟩ := labelOps_desc cfg a.cpu _ (mkPos_segs hseg)
  rw [IdxOK, remL_mkCtr]
  refine ⟨d1, fun e => ?_, fun k m tl e => ?_⟩
  · have := congrArg List.length ((labelOps_eq_nil_iff cfg a.cpu (mkPos_segs hseg)).mp e)
    simpa [mkPos, mkCtr] using this.symm
  · simpa [mkPos, mkCtr] using d2 _ _ e

theorem idxOK_step {cfg : Cfg} {L : Nat} {c c' : Ctr} {k m : Nat} {tl : List (Nat × Nat)} (h : IdxOK cfg L c)
    (e : remL cfg c = (k, m) :: tl) (e' : remL cfg c' = tl)
    (hi : c'.curOpIdx = (if ∀ x ∈ tl, x.1 ≠ k then c.curOpIdx + 1 else c.curOpIdx)) : IdxOK cfg L c' := by
  have hk := h.next k m tl e
  have h1 := h.desc
  rw [e] at h1
  rw [IdxOK, e', hi]
  cases tl with
  | nil =>
    have : k = 0 := h1
    exact ⟨trivial, fun _ => by simp; omega, fun _ _ _ h => by cases h⟩
  | cons y tl2 =>
    obtain ⟨hy, hd⟩ := h1
    refine ⟨hd, (fun h => by cases h), fun k2 m2 tl3 e2 => ?_⟩
    cases e2
    simp only at hy
    -- the next demand belongs to the same operator, or to the one after it, and then no later demand has the label `k`
    rcases hy with ek | ek
    · rw [if_neg (fun hall => hall _ List.mem_cons_self ek.symm)]; omega
    · rw [if_pos (fun x hx => by have := Desc.le_head hd x hx; simp only at this; omega)]; omega

theorem getD_of_lt {α : Type} (l : List α) (d : α) {n : Nat} (h : n < l.length) : l.getD n d = l[n] := by
  rw [List.getD_eq_getElem?_getD, List.getElem?_eq_getElem h]
  rfl

structure After (cfg : Cfg) (c : Ctr) (n : Nat) (c' : Ctr) : Prop where
  todo : remL cfg c' = (remL cfg c).drop n
  elapsed : c'.elapsed = c.elapsed + n
  frozen : c'.frozen = false
  ram : c'.ram = c.ram
  pos : PosOK cfg c'
  segs : ∀ o ∈ c'.pos.ops, o.2 ≠ []
  completed : c'.completed = true ↔ 0 < n ∧ n = (remL cfg c).length
  mem : 0 < n → c'.mem = (if n = (remL cfg c).length then 0 else ((remL cfg c).getD (n - 1) (0, 0)).2)
  idx : ∀ L, IdxOK cfg L c → IdxOK cfg L c'

theorem After.running {cfg : Cfg} {c c' : Ctr} {n : Nat} (s : After cfg c n c') (hn : n < (remL cfg c).length) : Running cfg c' :=
  ⟨s.frozen, Bool.eq_false_iff.mpr fun h => Nat.ne_of_lt hn (s.completed.mp h).2, s.pos, s.segs⟩

theorem After.next {cfg : Cfg} {c c' : Ctr} {n L : Nat} (s : After cfg c n c') (hi : IdxOK cfg L c) (hn : n < (remL cfg c).length) :
    c'.curOpIdx + ((remL cfg c).getD n (0, 0)).1 + 1 = L := by
  rw [getD_of_lt _ _ hn]
  exact (s.idx L hi).next _ _ _ (s.todo.trans (List.drop_eq_getElem_cons hn))

/-- **the run follows the list of demands** as long as they fit the allocation -/
theorem run_follows_demands {cfg : Cfg} {n : Nat} {w : Store} {c : Ctr} {cons : Int} {w' : Store} {c' : Ctr} {cons' : Int}
    (hr : Running cfg c) (hn : n ≤ (remL cfg c).length) (hfit : ∀ x ∈ (remL cfg c).take n, x.2 ≤ c.ram)
    (h : runN cfg n w c cons = .ok (w', c', cons')) : After cfg c n c' := by
  induction n generalizing w' c' cons' with
  | zero =>
    cases h
    exact ⟨rfl, rfl, hr.frozen, rfl, hr.pos, hr.segs, by simp [hr.completed], fun h0 => absurd h0 (Nat.lt_irrefl 0), fun _ hi => hi⟩
  | succ n ih =>
    obtain ⟨w1, c1, cons1, h1, ht⟩ := runN_succ_ok.mp h
    have s := ih (Nat.le_of_succ_le hn) (fun x hx => hfit x (List.take_subset_take_left _ (Nat.le_succ n) hx)) h1
    have hlt : n < (remL cfg c).length := hn
    obtain ⟨k, m, tl, a1, a2, _, a4, a5, _, a7⟩ := tick_consumes (s.running hlt) ht
    -- the demand looked at is the `n`-th of the run
    obtain ⟨hx, htl⟩ := List.cons.inj (a1.symm.trans (s.todo.trans (List.drop_eq_getElem_cons hlt)))
    have hm : m ≤ c1.ram := by
      rw [s.ram]
      exact hfit (k, m) (by rw [hx]; exact List.mem_take_iff_getElem.mpr ⟨n, by omega, rfl⟩)
    obtain ⟨b1, b2, b3, b4, b5, b6, _⟩ := a7 hm
    have hnil : tl = [] ↔ n + 1 = (remL cfg c).length := by rw [htl, List.drop_eq_nil_iff]; omega
    refine ⟨b2.trans htl, by rw [a5, s.elapsed]; omega, b1, a2.trans s.ram, b3, a4, ?_, fun _ => ?_,
      fun L hi => idxOK_step (s.idx L hi) a1 b2 b6⟩
    · rw [b4, hnil]; simp
    · rw [b5]
      simp only [hnil, Nat.add_sub_cancel, getD_of_lt _ _ hlt, ← hx]

theorem run_keeps_idxOK (cfg : Cfg) (L : Nat) : ∀ (n : Nat) (w : Store) (c : Ctr) (cons : Int) (w' : Store) (c' : Ctr) (cons' : Int),
    c.frozen = false → c.completed = false → PosOK cfg c → (∀ o ∈ c.pos.ops, o.2 ≠ []) →
    n ≤ (remL cfg c).length → (∀ x ∈ (remL cfg c).take n, x.2 ≤ c.ram) → IdxOK cfg L c →
    runN cfg n w c cons = .ok (w', c', cons') → IdxOK cfg L c' :=
  fun _ _ _ _ _ _ _ hf hc hp hseg hn hfit hi h => (run_follows_demands ⟨hf, hc, hp, hseg⟩ hn hfit h).idx L hi

end Eudoxia
