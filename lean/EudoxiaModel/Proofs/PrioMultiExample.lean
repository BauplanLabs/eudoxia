import EudoxiaModel.Proofs.FreshWorlds
import EudoxiaModel.Proofs.PoolExample
import EudoxiaModel.Proofs.HypCheck
/-! The concrete world of `NaiveExample` (a diamond DAG, two pools, nothing started, multi-operator containers) meets every hypothesis of the closed-loop
    theorem for `priority` with multi-operator containers and pre-emption, with its one pipeline still to arrive. -/
namespace Eudoxia.PrioMultiExample
open Eudoxia OpState Extracted

theorem inv : PM.PMInv (NaiveExample.world true) {} [] [] [0] :=
  have ni := NaiveExample.naiveInv true
  have fut := futureB_sound (NaiveExample.world true) [0] (by decide)
  PM.fresh_inv (NaiveExample.world true).cfg NaiveExample.store (NaiveExample.world true).pipes [(4, 64 * 8), (4, 64 * 8)] [0] rfl rfl (by decide)
    (NaiveExample.wfp true) (NaiveExample.segsOK true) ni.pid ni.topo fut.1 fut.2

theorem runs (n : Nat) : ∃ out, Prio.loop (NaiveExample.world true) {} [] ([0] :: List.replicate n []) = .ok out := by
  obtain ⟨w', st', cs', js', h, _⟩ := PM.run_never_raises ([0] :: List.replicate n []) (NaiveExample.world true) {} [] [] (by rw [PoolExample.flatten_arrivals]; exact inv)
  exact ⟨_, h⟩

end Eudoxia.PrioMultiExample
