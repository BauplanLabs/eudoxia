import EudoxiaModel.Model.Sched.Naive
import EudoxiaModel.Proofs.Built
import EudoxiaModel.Proofs.WorldInv
import EudoxiaModel.Proofs.Lists
/-! The naive scheduler's round never raises in a world whose pipelines are well-formed (`World.WFP`). -/
namespace Eudoxia
open OpState Extracted

theorem Steps.parentsOf {s s' : Store} (h : Steps s s') (r : Nat) : s'.parentsOf r = s.parentsOf r := by
  unfold Store.parentsOf; rw [h.ops]

theorem Steps.pidOf {s s' : Store} (h : Steps s s') (r : Nat) : s'.pidOf r = s.pidOf r := by
  unfold Store.pidOf; rw [h.ops]

def World.WFP (w : World) : Prop :=
  ∀ pid, ((w.pipes.getD pid default).order).Nodup ∧ ∀ r ∈ (w.pipes.getD pid default).order, r < w.store.st.size

theorem World.WFP.steps {w w' : World} (wf : w.WFP) (hp : w'.pipes = w.pipes) (hs : Steps w.store w'.store) : w'.WFP := by
  intro pid
  rw [hp, hs.size]
  exact wf pid

theorem mem_getOps {w : World} {pid : Nat} {states : List OpState} {pc : Bool} {r : Nat} :
    r ∈ w.getOps pid states pc ↔ r ∈ (w.pipes.getD pid default).order ∧ w.store.stOf r ∈ states ∧
      (pc = true → ∀ q ∈ w.store.parentsOf r, w.store.stOf q = completed) := by
  cases pc <;> simp [World.getOps]

theorem getOps_sublist (w : World) (pid : Nat) (states : List OpState) (pc : Bool) :
    (w.getOps pid states pc).Sublist (w.pipes.getD pid default).order :=
  List.filter_sublist

theorem assignOps_succeeds {l : List Nat} {s : Store} (hnd : l.Nodup) (h : ∀ r ∈ l, r < s.st.size ∧ s.stOf r ∈ assignable) :
    ∃ s', assignOps s l = .ok s' := by
  induction l generalizing s with
  | nil => exact ⟨s, rfl⟩
  | cons r rs ih =>
    obtain ⟨hb, hst⟩ := h r List.mem_cons_self
    obtain ⟨hr, hnd⟩ := List.nodup_cons.mp hnd
    have htr : s.transition r assigned = .ok (s.setSt r assigned) := by
      refine transition_ok_iff.mpr ⟨?_, rfl⟩
      have h2 : assigned ∈ validNext (s.stOf r) := by
        revert hst; cases s.stOf r <;> simp [assignable, validNext]
      simp [Store.check, hb, h2]
    obtain ⟨s', hs'⟩ := ih hnd fun x hx => by
      rw [transition_size htr, transition_other htr (fun e => hr (e ▸ hx))]
      exact h x (List.mem_cons_of_mem _ hx)
    exact ⟨s', assignOps_cons_ok.mpr ⟨_, htr, hs'⟩⟩

theorem mkAssignment_succeeds (w : World) (a : Asg) (h1 : a.ops ≠ []) (h2 : 0 < a.cpu) (h3 : 0 < a.ram) (hnd : a.ops.Nodup)
    (hst : ∀ r ∈ a.ops, r < w.store.st.size ∧ w.store.stOf r ∈ assignable) : ∃ w', w.mkAssignment a = .ok w' := by
  obtain ⟨s', hs⟩ := assignOps_succeeds hnd hst
  exact ⟨{ w with store := s' }, by simp [World.mkAssignment, h1, Nat.ne_of_gt h2, Nat.ne_of_gt h3, hs]⟩

theorem mkA_succeeds {w : World} {ops : List Nat} {cpu ram : Nat} (prio pool : Nat) (hne : ops ≠ []) (hc : 0 < cpu) (hr : 0 < ram)
    (hnd : ops.Nodup) (hst : ∀ r ∈ ops, r < w.store.st.size ∧ w.store.stOf r ∈ assignable) :
    ∃ w1, w.mkAssignment ⟨ops, cpu, ram, prio, pool⟩ = .ok w1 ∧ mkA w ops cpu ram prio pool = .ok (w1, ⟨ops, cpu, ram, prio, pool⟩) := by
  obtain ⟨w1, hw1⟩ := mkAssignment_succeeds w ⟨ops, cpu, ram, prio, pool⟩ hne hc hr hnd hst
  exact ⟨w1, hw1, by unfold mkA; rw [hw1]⟩

namespace Naive

theorem opsFor_sublist (w : World) (multi : Bool) (pid : Nat) : (opsFor w multi pid).Sublist (w.getOps pid assignable (!multi)) := by
  cases multi
  · exact List.take_sublist _ _
  · exact List.Sublist.refl _

theorem mem_opsFor {w : World} {multi : Bool} {pid r : Nat} (h : r ∈ opsFor w multi pid) :
    r ∈ (w.pipes.getD pid default).order ∧ w.store.stOf r ∈ assignable ∧
      (multi = false → ∀ q ∈ w.store.parentsOf r, w.store.stOf q = completed) := by
  simpa using mem_getOps.mp ((opsFor_sublist w multi pid).subset h)

theorem opsFor_single_length (w : World) (pid : Nat) : (opsFor w false pid).length ≤ 1 :=
  List.length_take_le 1 _

theorem opsFor_nodup {w : World} (wf : w.WFP) (multi : Bool) (pid : Nat) : (opsFor w multi pid).Nodup :=
  ((opsFor_sublist w multi pid).trans (getOps_sublist _ _ _ _)).nodup (wf pid).1

end Naive

namespace C17
open Naive

/-- a pipeline the scan passes over: finished or failed (dropped), or with nothing ready (put back) -/
def Skipped (w : World) (multi : Bool) (pid : Nat) : Prop :=
  (w.successful pid || w.hasFailures pid) = true ∨ (opsFor w multi pid).isEmpty = true

theorem not_skipped {w : World} {multi : Bool} {pid : Nat} (h : ¬ Skipped w multi pid) :
    w.successful pid = false ∧ w.hasFailures pid = false ∧ opsFor w multi pid ≠ [] := by
  simp only [Skipped, not_or, Bool.or_eq_true, Bool.not_eq_true, List.isEmpty_iff] at h
  exact ⟨h.1.1, h.1.2, h.2⟩

theorem not_skipped_ops {w : World} {multi : Bool} {pid : Nat} (h : ¬ Skipped w multi pid) : opsFor w multi pid ≠ [] :=
  (not_skipped h).2.2

theorem not_skipped_failures {w : World} {multi : Bool} {pid : Nat} (h : ¬ Skipped w multi pid) : w.hasFailures pid = false :=
  (not_skipped h).2.1

end C17

namespace Naive

theorem pop_cons_skipped {w : World} {multi : Bool} {pool cpu ram x : Nat} (q req : List Nat) (hs : C17.Skipped w multi x) :
    pop w multi pool cpu ram (x :: q) req =
      pop w multi pool cpu ram q (req ++ [x].filter (fun x => !(w.successful x || w.hasFailures x))) := by
  rw [pop]
  by_cases hd : (w.successful x || w.hasFailures x) = true
  · rw [if_pos hd, List.filter_cons_of_neg (by simp [hd]), List.filter_nil, List.append_nil]
  · rw [if_neg hd, if_pos (hs.resolve_left hd), List.filter_cons_of_pos (by simpa using hd), List.filter_nil]

theorem pop_ok {w w' : World} {multi : Bool} {pool cpu ram : Nat} {queue req rest req' : List Nat} {oa : Option Asg}
    (h : pop w multi pool cpu ram queue req = .ok (w', rest, req', oa)) :
    ∃ pre, (∀ x ∈ pre, C17.Skipped w multi x) ∧
      ((oa = none ∧ w' = w ∧ queue = pre ∧ rest = [] ∧ req' = req ++ pre.filter (fun x => !(w.successful x || w.hasFailures x))) ∨
       ∃ pid a, oa = some a ∧ queue = pre ++ pid :: rest ∧ ¬ C17.Skipped w multi pid ∧
         mkA w (opsFor w multi pid) cpu ram (w.prioOf pid) pool = .ok (w', a) ∧
         req' = req ++ pre.filter (fun x => !(w.successful x || w.hasFailures x)) ++ [pid]) := by
  induction queue generalizing req with
  | nil =>
    cases h
    exact ⟨[], fun _ hx => (nomatch hx), .inl ⟨rfl, rfl, rfl, rfl, (List.append_nil _).symm⟩⟩
  | cons x q ih =>
    by_cases hs : C17.Skipped w multi x
    · rw [pop_cons_skipped q req hs] at h
      obtain ⟨pre, hpre, hcase⟩ := ih h
      refine ⟨x :: pre, List.forall_mem_cons.mpr ⟨hs, hpre⟩, ?_⟩
      rcases hcase with ⟨h1, h2, h3, h4, h5⟩ | ⟨pid, a, h1, h3, h4, h5, h6⟩
      · exact .inl ⟨h1, h2, by rw [h3], h4, by rw [h5, List.append_assoc, ← List.filter_append]; rfl⟩
      · exact .inr ⟨pid, a, h1, by rw [h3]; rfl, h4, h5, by rw [h6, List.append_assoc req, ← List.filter_append]; rfl⟩
    · rw [pop, if_neg (fun hd => hs (.inl hd)), if_neg (fun he => hs (.inr he))] at h
      split at h
      · cases h
      · cases h
        exact ⟨[], fun _ hx => (nomatch hx), .inr ⟨x, _, rfl, rfl, hs, ‹_›, by rw [List.filter_nil, List.append_nil]⟩⟩

theorem pop_succeeds (multi : Bool) (pool : Nat) {cpu ram : Nat} (hc : 0 < cpu) (hr : 0 < ram) {w : World} (wf : w.WFP) (queue req : List Nat) :
    ∃ w' rest req' oa, pop w multi pool cpu ram queue req = .ok (w', rest, req', oa) ∧ w'.WFP := by
  induction queue generalizing req with
  | nil => exact ⟨w, [], req, none, rfl, wf⟩
  | cons pid rest ih =>
    by_cases hs : C17.Skipped w multi pid
    · rw [pop_cons_skipped rest req hs]
      exact ih _
    · rw [pop, if_neg (fun hd => hs (.inl hd)), if_neg (fun he => hs (.inr he))]
      obtain ⟨w1, hw1, hmk⟩ := mkA_succeeds (w.prioOf pid) pool (C17.not_skipped_ops hs) hc hr (opsFor_nodup wf multi pid)
        (fun r hr => ⟨(wf pid).2 r (mem_opsFor hr).1, (mem_opsFor hr).2.1⟩)
      rw [hmk]
      exact ⟨w1, rest, req ++ [pid], some _, rfl, wf.steps (mkAssignment_pipes hw1) (mkAssignment_steps_ok hw1)⟩

theorem pools_induct {multi : Bool}
    {motive : ∀ w ips queue req acc w' queue' req' out, pools multi w ips queue req acc = .ok (w', queue', req', out) → Prop}
    (nil : ∀ w queue req acc h, motive w [] queue req acc w queue req acc h)
    (full : ∀ {w i p ips queue req acc w' queue' req' out} h, (p.availC ≤ 0 ∨ p.availR ≤ 0) →
      (hr : pools multi w ips queue req acc = .ok (w', queue', req', out)) → motive _ _ _ _ _ _ _ _ _ hr →
      motive w ((i, p) :: ips) queue req acc w' queue' req' out h)
    (scan : ∀ w i p queue req {ips acc w1 q1 r1 oa w' queue' req' out} h, 0 < p.availC → 0 < p.availR →
      pop w multi i p.availC.toNat p.availR.toNat queue req = .ok (w1, q1, r1, oa) →
      (hr : pools multi w1 ips q1 r1 (acc ++ oa.toList) = .ok (w', queue', req', out)) → motive _ _ _ _ _ _ _ _ _ hr →
      motive w ((i, p) :: ips) queue req acc w' queue' req' out h)
    {w : World} {ips : List (Nat × Pool)} {queue req : List Nat} {acc : List Asg} {w' : World} {queue' req' : List Nat} {out : List Asg}
    (h : pools multi w ips queue req acc = .ok (w', queue', req', out)) : motive w ips queue req acc w' queue' req' out h := by
  induction ips generalizing w queue req acc with
  | nil => cases h; exact nil _ _ _ _ _
  | cons ip ips ih =>
    obtain ⟨i, p⟩ := ip
    have h' := h
    rw [pools] at h'
    split at h'
    · rename_i hfull
      exact full h (by simpa using hfull) h' (ih h')
    · rename_i hfree
      simp only [Bool.or_eq_true, decide_eq_true_eq, not_or, Int.not_le] at hfree
      split at h'
      · cases h'
      · rename_i w1 q1 r1 oa hp
        have hr : pools multi w1 ips q1 r1 (acc ++ oa.toList) = .ok (w', queue', req', out) := by cases oa <;> simpa using h'
        exact scan w i p queue req h hfree.1 hfree.2 hp hr (ih hr)

theorem pools_succeeds (multi : Bool) (ips : List (Nat × Pool)) {w : World} (queue req : List Nat) (acc : List Asg) (wf : w.WFP) :
    ∃ w' queue' req' asgs, pools multi w ips queue req acc = .ok (w', queue', req', asgs) ∧ w'.WFP := by
  induction ips generalizing w queue req acc with
  | nil => exact ⟨w, queue, req, acc, rfl, wf⟩
  | cons ip ips ih =>
    obtain ⟨i, p⟩ := ip
    rw [pools]
    split
    · exact ih queue req acc wf
    · rename_i hfree
      simp only [Bool.or_eq_true, decide_eq_true_eq, not_or, Int.not_le] at hfree
      obtain ⟨w1, q1, r1, oa, h1, wf1⟩ := pop_succeeds multi i (cpu := p.availC.toNat) (ram := p.availR.toNat) (by omega) (by omega) wf queue req
      rw [h1]
      exact ih q1 r1 _ wf1

theorem round_ok {multi : Bool} {w w' : World} {st st' : St} {results : List Res} {newP : List Nat} {dec : Decision}
    (h : round multi w st results newP = .ok (w', st', dec)) :
    ((newP.isEmpty && results.isEmpty) = true ∧ w' = w ∧ st' = st ∧ dec = {}) ∨
    ((newP.isEmpty && results.isEmpty) = false ∧ ∃ queue' req asgs,
      pools multi w (indexed w.pools) (st.queue ++ newP) [] [] = .ok (w', queue', req, asgs) ∧
      st' = { queue := queue' ++ req } ∧ dec = { asgs := asgs }) := by
  unfold round at h
  split at h
  · rename_i he
    cases h; exact .inl ⟨he, rfl, rfl, rfl⟩
  · rename_i he
    split at h
    · cases h
    · rename_i hp
      cases h; exact .inr ⟨Bool.eq_false_iff.mpr he, _, _, _, hp, rfl, rfl⟩

/-- **the naive scheduler (and the `eudoxia init` starter, `multi = false`) never raises**, whatever the queue, the results and the arrivals are -/
theorem round_never_raises (multi : Bool) (w : World) (st : St) (results : List Res) (newP : List Nat) (wf : w.WFP) :
    ∃ w' st' dec, round multi w st results newP = .ok (w', st', dec) ∧ w'.WFP := by
  unfold round
  split
  · exact ⟨w, st, {}, rfl, wf⟩
  · obtain ⟨w1, q1, r1, asgs, h1, wf1⟩ := pools_succeeds multi (indexed w.pools) (st.queue ++ newP) [] [] wf
    rw [h1]
    exact ⟨w1, _, _, rfl, wf1⟩

end Naive
end Eudoxia
