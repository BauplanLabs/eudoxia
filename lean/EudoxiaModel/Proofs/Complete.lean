import EudoxiaModel.Proofs.CtrKept
import EudoxiaModel.Proofs.Cover
import EudoxiaModel.Proofs.Cids
import EudoxiaModel.Proofs.WorldDeadSusp
import EudoxiaModel.Proofs.NaiveMulti
import EudoxiaModel.Proofs.TickFrame
/-! When the last operator of a pipeline completes, the tick reports a success: an operator completes only inside a container, no container is lost by
    a tick (`Cover.lean`), and a container with work left holds operators that are not COMPLETED; so the container that completed it has nothing left and is
    reported in that very tick.  This lets the simulator's completion sweep, which only looks when a tick has results, see every completion when it happens. -/
namespace Eudoxia
open OpState Extracted

def InOne (pipes : Array PipeInfo) (ops : List Nat) : Prop := ∃ P, ∀ o ∈ ops, o ∈ (pipes.getD P default).order

structure World.OnePipe (w : World) : Prop where
  one : ∀ p ∈ w.pools, ∀ c ∈ p.active ++ p.suspending, InOne w.pipes c.ops
  sne : ∀ p ∈ w.pools, ∀ c ∈ p.suspending, c.unfinished ≠ []

theorem not_all_completed {s : Store} {c : Ctr} (hne : c.unfinished ≠ []) (hst : ∀ o ∈ c.unfinished, s.stOf o ≠ completed) :
    ¬ ∀ o ∈ c.ops, s.stOf o = completed := by
  intro hall
  obtain ⟨o, ho⟩ := List.exists_mem_of_ne_nil _ hne
  exact hst o ho (hall o (List.mem_of_mem_drop ho))

theorem execTick_static {w w2 : World} {sus : List (Nat × Nat)} {asgs : List Asg} {res : List Res} (hx : w.execTick sus asgs = .ok (w2, res)) :
    w2.pipes = w.pipes ∧ w2.cfg = w.cfg := by
  obtain ⟨_, _, _, _, _, _, rfl⟩ := execTick_ok hx
  exact ⟨rfl, rfl⟩

/-- Every container still held or handed back by a write-out has work left that is busy or PENDING, and one that ended with an error has FAILED operators;
so a container all of whose operators are COMPLETED was reported, as a success. -/
theorem TickEnds.reported {w1 w2 : World} {sus : List (Nat × Nat)} {res : List Res} {cs js : List Ctr} (T : TickEnds w1 w2 sus res cs js)
    (r2 : WorldReady w2) (hne : ∀ c, w1.WroteFrom sus c → c.unfinished ≠ []) {L : List Nat} (hcomp : ∀ o ∈ L, w2.store.stOf o = completed)
    (hwhere : (∃ q ∈ w2.pools, ∃ c ∈ q.active ++ q.suspending, c.ops = L) ∨ (∃ c ∈ js, c.ops = L) ∨ (∃ r ∈ res, r.ops = L)) :
    ∃ r ∈ res, r.ok = true ∧ r.ops = L := by
  have absurdUnf : ∀ c : Ctr, c.ops = L → c.unfinished ≠ [] → (∀ o ∈ c.unfinished, w2.store.stOf o ≠ completed) → False :=
    fun c hcL hne hst => not_all_completed hne hst (hcL ▸ hcomp)
  rcases hwhere with ⟨q, hq, c, hc', hcL⟩ | ⟨c, hc', hcL⟩ | ⟨r, hrr, hrL⟩
  · exfalso
    have hbusy := owned_busy r2 hq hc'
    have hne' : c.unfinished ≠ [] := by
      rcases List.mem_append.mp hc' with h | h
      · exact active_unf_ne r2 hq h
      · exact hne c (T.wrote q hq c h)
    exact absurdUnf c hcL hne' (fun o ho e => by rcases hbusy o ho with f | f | f <;> rw [e] at f <;> cases f)
  · exfalso
    obtain ⟨_, _, hpk, hc0, _⟩ := T.parked c hc'
    exact absurdUnf c hcL (hne c hc0) (fun o ho e => by rw [hpk o ho] at e; cases e)
  · have hrr' := hrr
    rw [T.res] at hrr'
    obtain ⟨c, hcm, rfl⟩ := List.mem_map.mp hrr'
    obtain ⟨f, hcc⟩ := T.ended c hcm
    have hcL : c.ops = L := hrL
    cases herr : c.err with
    | false => exact ⟨mkRes c, hrr, by simp [mkRes, herr], hrL⟩
    | true =>
      exfalso
      obtain ⟨hne', hfail⟩ := f.dead hcc herr
      exact absurdUnf c hcL hne' (fun o ho e => by rw [hfail o ho] at e; cases e)

theorem execTick_completion (w0 w1 : World) (asgs : List Asg) (sus : List (Nat × Nat)) (hr : WorldReady w0) (hb : Built w0 asgs w1)
    (hseg : ∀ a ∈ asgs, ∀ r ∈ a.ops, w0.store.segsOf r ≠ []) (hpar : ∀ a ∈ asgs, ParentsOK w1.store a.ops)
    (hsus : ∀ i, ((sus.filter (·.1 == i)).map (·.2)).Nodup) (hf : w0.FinS) (hc : w0.CidsOK) (hpid : w0.PidOK) (h1 : w0.OnePipe)
    (ha1 : ∀ a ∈ asgs, InOne w0.pipes a.ops)
    {w2 : World} {res : List Res} (hx : w1.execTick sus asgs = .ok (w2, res)) :
    w2.OnePipe ∧ (∀ r ∈ res, InOne w0.pipes r.ops) ∧ ∀ pid, (∀ o ∈ (w0.pipes.getD pid default).order, w2.store.stOf o = completed) →
      (∃ o ∈ (w0.pipes.getD pid default).order, w1.store.stOf o ≠ completed) →
      ∃ r ∈ res, r.ok = true ∧ ∃ o ∈ r.ops, o ∈ (w0.pipes.getD pid default).order := by
  obtain ⟨e1, e2, e3, _⟩ := built_frame hb
  have hJ := poolsReady_of_built w0 w1 asgs hr hb hseg hpar
  have hg1 : ∀ p ∈ w1.pools, PoolGoodMem w1.cfg p w1.nextCid := by
    intro p hp; rw [e1] at hp; rw [e2, e3]; exact (hr.pools p hp).1
  have r2 : WorldReady w2 := by
    rcases execTick_raises_only_at_the_gates w0 w1 asgs sus hr hb hseg hpar hsus with ⟨_, _, h', hr'⟩ | ⟨_, _, h', _⟩
    · cases hx.symm.trans h'
      exact hr'
    · cases hx.symm.trans h'
  obtain ⟨cs, js, T⟩ := execTick_finS hr hb hseg hpar hsus hf hx
  obtain ⟨kA, kR⟩ := execTick_kept (ops_kept w1.cfg (InOne w0.pipes)) (fun a ha _ _ => ha1 a ha)
    (fun p hp c hc' => by rw [e1] at hp; exact h1.one p hp c (List.mem_append_left _ hc')) hx
  obtain ⟨cA, cB⟩ := execTick_cover hg1 hx
  have hpre : ∀ c, w1.WroteFrom sus c → InOne w0.pipes c.ops ∧ c.unfinished ≠ [] := by
    intro c hc'
    obtain ⟨c0, ⟨q, hq, h⟩, hs⟩ := hc'
    rw [e1] at hq
    rw [hs.ops, hs.unfinished]
    rcases h with h | ⟨h, _⟩
    · exact ⟨h1.one q hq c0 (List.mem_append_right _ h), h1.sne q hq c0 h⟩
    · exact ⟨h1.one q hq c0 (List.mem_append_left _ h), active_unf_ne hr hq h⟩
  refine ⟨⟨fun p hp c hc' => ?_, fun p hp c hc' => (hpre c (T.wrote p hp c hc')).2⟩, fun r hrr => ?_, ?_⟩
  · rw [(execTick_static hx).1, hb.pipes]
    rcases List.mem_append.mp hc' with h | h
    · exact kA p hp c h
    · exact (hpre c (T.wrote p hp c h)).1
  · obtain ⟨c, hc', rfl⟩ := kR r hrr
    exact hc'
  intro pid hall hnew
  obtain ⟨r0, hr0, hr0n⟩ := hnew
  have hr0c := hall r0 hr0
  -- the operator that completed was owned by a container, or handed to a new one
  have howner : r0 ∈ w1.pools.flatMap ownP ∨ r0 ∈ opsOf asgs := by
    apply Classical.byContradiction
    intro hno
    have := execTick_frame hJ.live hx r0 (fun h => hno (Or.inl h)) (fun h => hno (Or.inr h))
    rw [this] at hr0c
    exact hr0n hr0c
  -- a suspended-list container with the number of a container that was running or being written out is one of `js`
  have notOld : ∀ (q : Pool), q ∈ w2.pools → ∀ c ∈ q.suspended, ∀ (p : Pool), p ∈ w0.pools → ∀ c0 ∈ p.active ++ p.suspending, c.cid = c0.cid → c ∈ js := by
    intro q hq c hc' p hp c0 hc0 e
    rcases T.old q hq c hc' with ⟨q', hq', hcq⟩ | h
    · exact absurd e (hc.suspended_apart (e1 ▸ hq') hp hcq hc0)
    · exact h
  obtain ⟨L, hL, ⟨P, hP⟩, hwhere⟩ : ∃ L, r0 ∈ L ∧ InOne w0.pipes L ∧
      ((∃ q ∈ w2.pools, ∃ c ∈ q.active ++ q.suspending, c.ops = L) ∨ (∃ c ∈ js, c.ops = L) ∨ (∃ r ∈ res, r.ops = L)) := by
    rcases howner with hown | hasg
    · obtain ⟨p, hp, hop⟩ := List.mem_flatMap.mp hown
      obtain ⟨c0, hc0, hoc⟩ := List.mem_flatMap.mp hop
      obtain ⟨hc0m, _⟩ := List.mem_filter.mp hc0
      have hp0 : p ∈ w0.pools := e1 ▸ hp
      refine ⟨c0.ops, List.mem_of_mem_drop hoc, h1.one p hp0 c0 hc0m, ?_⟩
      rcases cA p hp c0 hc0m with ⟨q, hq, c, hc', c1, c2⟩ | ⟨r, hrr, _, r2'⟩
      · rcases List.mem_append.mp hc' with h | h
        · exact Or.inl ⟨q, hq, c, h, c2⟩
        · exact Or.inr (Or.inl ⟨c, notOld q hq c h p hp0 c0 hc0m c1, c2⟩)
      · exact Or.inr (Or.inr ⟨r, hrr, r2'⟩)
    · obtain ⟨a, ha, hoa⟩ := List.mem_flatMap.mp hasg
      refine ⟨a.ops, hoa, ha1 a ha, ?_⟩
      rcases cB a ha with ⟨q, hq, c, hc', e⟩ | ⟨r, hrr, e⟩
      · exact Or.inl ⟨q, hq, c, List.mem_append_left _ hc', e⟩
      · exact Or.inr (Or.inr ⟨r, hrr, e⟩)
  -- `L` holds `r0`, so its pipeline is `pid`, all of whose operators are COMPLETED: the container was reported
  obtain rfl : P = pid := by rw [← hpid P r0 (hP r0 hL), hpid pid r0 hr0]
  obtain ⟨r, hrr, hok, hrL⟩ := T.reported r2 (fun c hc' => (hpre c hc').2) (fun o ho => hall o (hP o ho)) hwhere
  exact ⟨r, hrr, hok, r0, by rw [hrL]; exact hL, hr0⟩

end Eudoxia
