import EudoxiaModel.Model.Trace
/-! Arithmetic of the arrival→tick map, snap, and the replay cursor (C13, C20); an arrival time is a fraction `n/d`, and inequalities between
    fractions are stated cross-multiplied. Core Lean only. -/
namespace Eudoxia.Trace

theorem deliver_ge (n d tps : Nat) (hd : 0 < d) : n * tps ≤ deliverTick n d tps * d := by
  unfold deliverTick
  have := Nat.lt_div_mul_add (a := n * tps + d - 1) hd
  have h2 := Nat.div_mul_le_self (n * tps + d - 1) d
  omega

theorem deliver_first (n d tps k : Nat) (hd : 0 < d) (hk : n * tps ≤ k * d) : deliverTick n d tps ≤ k := by
  unfold deliverTick
  rw [Nat.div_le_iff_le_mul_add_pred hd]
  have : k * d = d * k := Nat.mul_comm _ _
  omega

theorem deliver_on_grid (k tps : Nat) (ht : 0 < tps) : deliverTick k tps tps = k := by
  apply Nat.le_antisymm
  · exact deliver_first k tps tps k ht (Nat.le_refl _)
  · have := deliver_ge k tps tps ht
    exact Nat.le_of_mul_le_mul_right this ht

theorem snap_le (n d tps : Nat) : snapNum n d tps * d ≤ n * tps := Nat.div_mul_le_self _ _

/-- `n/d - snapNum/tps < 1/tps` -/
theorem snap_gap (n d tps : Nat) (hd : 0 < d) : n * tps < (snapNum n d tps + 1) * d := by
  unfold snapNum
  have := Nat.lt_div_mul_add (a := n * tps) hd
  rw [Nat.add_mul]; omega

theorem snap_on_grid (k tps : Nat) (ht : 0 < tps) : snapNum k tps tps = k := by
  unfold snapNum; exact Nat.mul_div_cancel k ht

theorem snap_idem (n d tps : Nat) (ht : 0 < tps) : snapNum (snapNum n d tps) tps tps = snapNum n d tps :=
  snap_on_grid _ _ ht

theorem replay_succ (rem : List Nat) (cur n : Nat) :
    replay rem cur (n + 1) = rem.takeWhile (· ≤ cur) :: replay (rem.dropWhile (· ≤ cur)) (cur + 1) n := rfl

theorem replay_length (rem : List Nat) (cur n : Nat) : (replay rem cur n).length = n := by
  induction n generalizing rem cur with
  | zero => rfl
  | succ n ih => rw [replay_succ, List.length_cons, ih]

/-- the hypothesis holds of a sorted list and a downward-closed `p` -/
theorem takeWhile_dropWhile_eq_filter {α : Type} (p : α → Bool) : ∀ (l : List α), l.Pairwise (fun a b => p b = true → p a = true) →
    l.takeWhile p = l.filter p ∧ l.dropWhile p = l.filter (fun a => !p a)
  | [], _ => ⟨rfl, rfl⟩
  | a :: l, h => by
    rw [List.pairwise_cons] at h
    obtain ⟨ih1, ih2⟩ := takeWhile_dropWhile_eq_filter p l h.2
    cases hp : p a
    · have hl : ∀ b ∈ l, ¬ p b = true := fun b hb hpb => by simpa [hp] using h.1 b hb hpb
      simp only [List.takeWhile_cons, List.dropWhile_cons, List.filter_cons, hp, Bool.not_false, Bool.false_eq_true, if_false, if_true]
      exact ⟨(List.filter_eq_nil_iff.mpr hl).symm, by rw [List.filter_eq_self.mpr fun b hb => by simpa using hl b hb]⟩
    · simp only [List.takeWhile_cons, List.dropWhile_cons, List.filter_cons, hp, Bool.not_true, Bool.false_eq_true, if_false, if_true]
      exact ⟨by rw [ih1], ih2⟩

theorem sorted_le_closed {cur : Nat} {rem : List Nat} (hs : rem.Pairwise (· ≤ ·)) :
    rem.Pairwise (fun a b => decide (b ≤ cur) = true → decide (a ≤ cur) = true) :=
  hs.imp fun hab hb => decide_eq_true (Nat.le_trans hab (of_decide_eq_true hb))

theorem takeWhile_sorted (cur : Nat) : ∀ (rem : List Nat), rem.Pairwise (· ≤ ·) → (∀ t ∈ rem, cur ≤ t) →
    rem.takeWhile (· ≤ cur) = rem.filter (· == cur) := by
  intro rem hs hlo
  rw [(takeWhile_dropWhile_eq_filter _ rem (sorted_le_closed hs)).1]
  refine List.filter_congr fun t ht => ?_
  have := hlo t ht
  rw [Bool.eq_iff_iff]; simp only [decide_eq_true_eq, beq_iff_eq]; omega

theorem dropWhile_sorted (cur : Nat) : ∀ (rem : List Nat), rem.Pairwise (· ≤ ·) →
    rem.dropWhile (· ≤ cur) = rem.filter (fun t => decide (cur < t)) := by
  intro rem hs
  rw [(takeWhile_dropWhile_eq_filter _ rem (sorted_le_closed hs)).2]
  refine List.filter_congr fun t _ => ?_
  rw [Bool.eq_iff_iff]; simp only [Bool.not_eq_true', decide_eq_false_iff_not, decide_eq_true_eq]; omega

theorem dropWhile_rest (cur : Nat) (rem : List Nat) (hs : rem.Pairwise (· ≤ ·)) :
    (rem.dropWhile (· ≤ cur)).Pairwise (· ≤ ·) ∧ ∀ t ∈ rem.dropWhile (· ≤ cur), cur + 1 ≤ t := by
  refine ⟨hs.sublist (List.dropWhile_sublist _), fun t ht => ?_⟩
  rw [dropWhile_sorted cur rem hs] at ht
  exact of_decide_eq_true (List.mem_filter.mp ht).2

theorem replay_spec (n : Nat) : ∀ (rem : List Nat) (cur : Nat), rem.Pairwise (· ≤ ·) → (∀ t ∈ rem, cur ≤ t) →
    ∀ j (hj : j < n), (replay rem cur n)[j]'(by rw [replay_length]; exact hj) = rem.filter (· == cur + j) := by
  induction n with
  | zero => intro _ _ _ _ j hj; omega
  | succ n ih =>
    intro rem cur hs hlo j hj
    cases j with
    | zero => simp only [replay_succ, List.getElem_cons_zero, takeWhile_sorted cur rem hs hlo, Nat.add_zero]
    | succ j =>
      obtain ⟨hs', hlo'⟩ := dropWhile_rest cur rem hs
      simp only [replay_succ, List.getElem_cons_succ]
      rw [ih _ (cur + 1) hs' hlo' j (by omega), dropWhile_sorted cur rem hs, List.filter_filter]
      refine List.filter_congr fun x _ => ?_
      rw [Bool.eq_iff_iff]; simp only [Bool.and_eq_true, beq_iff_eq, decide_eq_true_eq]; omega

theorem deliverTick_mono (n1 d1 n2 d2 tps : Nat) (h1 : 0 < d1) (h2 : 0 < d2) (h : n1 * d2 ≤ n2 * d1) :
    deliverTick n1 d1 tps ≤ deliverTick n2 d2 tps := by
  apply deliver_first n1 d1 tps _ h1
  have hk := deliver_ge n2 d2 tps h2
  apply Nat.le_of_mul_le_mul_right _ h2
  calc n1 * tps * d2 = (n1 * d2) * tps := by rw [Nat.mul_right_comm]
    _ ≤ (n2 * d1) * tps := Nat.mul_le_mul_right _ h
    _ = (n2 * tps) * d1 := by rw [Nat.mul_right_comm]
    _ ≤ (deliverTick n2 d2 tps * d2) * d1 := Nat.mul_le_mul_right _ hk
    _ = deliverTick n2 d2 tps * d1 * d2 := by rw [Nat.mul_right_comm]

theorem replay_flatten (n : Nat) : ∀ (rem : List Nat) (cur : Nat), rem.Pairwise (· ≤ ·) → (∀ t ∈ rem, cur ≤ t) →
    (replay rem cur n).flatten = rem.filter (fun t => decide (t < cur + n)) := by
  induction n with
  | zero =>
    intro rem cur _ hlo
    exact (List.filter_eq_nil_iff.mpr fun t ht => by have := hlo t ht; simp only [decide_eq_true_eq]; omega).symm
  | succ n ih =>
    intro rem cur hs hlo
    obtain ⟨hs', hlo'⟩ := dropWhile_rest cur rem hs
    -- the entries the cursor passes in this tick lie before the end; the others are filtered by the later ticks
    have hpass : (rem.takeWhile (· ≤ cur)).filter (fun t => decide (t < cur + (n + 1))) = rem.takeWhile (· ≤ cur) :=
      List.filter_eq_self.mpr fun t ht => by have := of_decide_eq_true (List.all_eq_true.mp List.all_takeWhile t ht); exact decide_eq_true (by omega)
    rw [replay_succ, List.flatten_cons, ih _ (cur + 1) hs' hlo', Nat.add_right_comm cur 1 n, Nat.add_assoc]
    conv => rhs; rw [← List.takeWhile_append_dropWhile (p := (· ≤ cur)) (l := rem), List.filter_append, hpass]

end Eudoxia.Trace
