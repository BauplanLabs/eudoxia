import EudoxiaModel.Proofs.Trace
import EudoxiaModel.Proofs.Sort
/-! # C20 — trace tools change only arrival times, within their stated bounds -/
namespace Eudoxia.C20
open Eudoxia.Trace

/-- `snap` never moves an arrival up: snapNum/tps ≤ n/d -/
theorem snap_never_up (n d tps : Nat) : snapNum n d tps * d ≤ n * tps := snap_le n d tps

/-- `snap` moves an arrival by less than one tick: n/d < (snapNum+1)/tps -/
theorem snap_less_than_a_tick (n d tps : Nat) (hd : 0 < d) : n * tps < (snapNum n d tps + 1) * d := snap_gap n d tps hd

/-- times already on a tick boundary are unchanged -/
theorem snap_fixes_grid (k tps : Nat) (ht : 0 < tps) : snapNum k tps tps = k := snap_on_grid k tps ht

/-- snapping twice equals snapping once -/
theorem snap_idempotent (n d tps : Nat) (ht : 0 < tps) : snapNum (snapNum n d tps) tps tps = snapNum n d tps :=
  snap_idem n d tps ht

/-- the comparison `jitter` sorts by: the new arrival -/
def leKey (a b : Nat × Nat) : Bool := decide (a.2 ≤ b.2)

theorem leKey_total (a b : Nat × Nat) : leKey a b = true ∨ leKey b a = true := by
  simp only [leKey, decide_eq_true_eq]; exact Nat.le_total _ _

theorem leKey_trans (a b c : Nat × Nat) (h1 : leKey a b = true) (h2 : leKey b c = true) : leKey a c = true := by
  simp only [leKey, decide_eq_true_eq] at *; omega

/-- `jitter` keeps every pipeline (its output is a permutation of the input pipelines, each with arrival
old + draw) and writes them in ascending order of the new arrival -/
theorem jitter_permutation_sorted (arr draws : List Nat) :
    (jitter arr draws).Perm ((List.range arr.length).zip (List.zipWith (· + ·) arr draws)) ∧
    (jitter arr draws).Pairwise (fun a b => a.2 ≤ b.2) := by
  exact ⟨SortP.sortDesc_perm _ _, (SortP.sortDesc_sorted leKey leKey_total leKey_trans _).imp of_decide_eq_true⟩

/-- each pipeline is moved by its draw, so by at most δ and never down: `List.zipWith (· + ·) arr draws` is the list of new arrivals
that `jitter arr draws` pairs with the pipeline indices and sorts (`jitter_permutation_sorted`); entry `i` lies in
`[arr[i], arr[i] + δ]` when every draw is at most δ -/
theorem jitter_moves_by_draw (arr draws : List Nat) (δ : Nat) (hd : ∀ x ∈ draws, x ≤ δ) (i : Nat)
    (hi : i < (List.zipWith (· + ·) arr draws).length) :
    arr[i]'(by simp at hi; omega) ≤ (List.zipWith (· + ·) arr draws)[i] ∧
    (List.zipWith (· + ·) arr draws)[i] ≤ arr[i]'(by simp at hi; omega) + δ := by
  simp only [List.getElem_zipWith]
  have : draws[i]'(by simp at hi; omega) ≤ δ := hd _ (List.getElem_mem _)
  omega

/-- different samples get different seeds -/
theorem sample_seeds_distinct (start i j : Nat) (h : sampleSeed start i = sampleSeed start j) : i = j := by
  simp only [sampleSeed] at h; omega

example : snapNum 29 100 100 = 29 ∧ snapNum 295 1000 100 = 29 ∧ jitter [0, 10, 20] [15, 0, 3] = [(1, 10), (0, 15), (2, 23)] := by decide

end Eudoxia.C20
