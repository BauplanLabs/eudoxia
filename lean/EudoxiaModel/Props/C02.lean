import EudoxiaModel.Proofs.Reach
import EudoxiaModel.Proofs.Counts
import EudoxiaModel.Proofs.Live
import EudoxiaModel.Proofs.Built
import EudoxiaModel.Proofs.WorldLive
import EudoxiaModel.Proofs.FreshWorlds
/-! # C02 — operator lifecycle follows the documented state machine; completion is final -/
namespace Eudoxia.C02
open Eudoxia Extracted OpState

/-- **C02.1.**  The transition table read from the source (`VALID_TRANSITIONS`, regenerated on every run)
is exactly the documented one: PENDING→ASSIGNED→RUNNING→COMPLETED with FAILED (from ASSIGNED or RUNNING,
back to ASSIGNED) and SUSPENDING (from ASSIGNED, back to PENDING) as the only detours. -/
theorem transition_table_documented :
    validNext pending = [assigned] ∧
    validNext assigned = [running, suspending, failed] ∧
    validNext running = [completed, failed] ∧
    validNext suspending = [pending] ∧
    validNext completed = [] ∧
    validNext failed = [assigned] ∧
    assignable = [pending, failed] := by decide

/-- **C02.2a.**  An accepted state change is an arrow of the table (and for RUNNING the parents are completed);
the new table differs from the old one exactly at that operator. -/
theorem accepted_is_valid {s s' : Store} {r : Nat} {t : OpState} (h : s.transition r t = .ok s') :
    t ∈ validNext (s.stOf r) ∧ (t = running → ∀ p ∈ s.parentsOf r, s.stOf p = completed) ∧
    s'.stOf r = t ∧ ∀ r', r' ≠ r → s'.stOf r' = s.stOf r' :=
  accepted_valid h

/-- **C02.2b.**  Any request that is not an arrow of the table is refused. (A refusal is the value
`Except.error _`, which carries no new table: states and counts are unchanged by construction; that the
*implementation* leaves them unchanged is what the correspondence check observes.) -/
theorem invalid_is_refused (s : Store) (r : Nat) (t : OpState) (h : t ∉ validNext (s.stOf r)) :
    ∃ e, s.transition r t = .error e := by
  cases hres : s.transition r t with
  | error e => exact ⟨e, rfl⟩
  | ok s' => exact absurd (transition_ok hres).1 h

/-- **C02.3.**  The per-state counts are the histogram of the operator states, in every world reachable
under arbitrary commands. -/
theorem counts_are_histogram {w0 w : World} (h0 : CountsInv w0.store) (h : Reach w0 w) (pid : Nat) (x : OpState) :
    w.store.count pid x = w.store.hist pid x :=
  (countsInv_steps h.steps h0).ok pid x

/-- **C02.4a.**  A completed operator never changes state again, whatever commands follow. -/
theorem completed_is_final {w w' : World} (h : Reach w w') (r : Nat) (hc : w.store.stOf r = completed) :
    w'.store.stOf r = completed :=
  completed_final h.steps r hc

/-- **C02.4b.**  A completed operator is never handed to a container again: building an `Assignment`
that contains it is refused. -/
theorem completed_never_reassigned (w : World) (a : Asg) (r : Nat) (hr : r ∈ a.ops)
    (hc : w.store.stOf r = completed) : ∃ e w', w.mkAssignment a = .error (e, w') := by
  cases h : w.mkAssignment a with
  | error e => exact ⟨e.1, e.2, rfl⟩
  | ok w' =>
    -- an accepted construction takes PENDING or FAILED operators only
    have := (mkAssignment_assigned h r hr).1
    rw [hc] at this
    simp [assignable] at this

/-- non-vacuity: a two-operator chain in which the first operator is completed -/
example : (({ ops := #[⟨0, [], []⟩, ⟨0, [0], []⟩], st := #[completed, pending], cnt := #[1, 0, 0, 0, 1, 0] } : Store).stOf 0 = completed) := by
  decide

/-- the ownership invariant of a world at a tick boundary: every pool is well-formed, the operators of the unfinished suffixes of all live
(running or suspending) containers of all pools are pairwise distinct, and each of them is ASSIGNED, RUNNING or SUSPENDING -/
structure WorldLive (w : World) : Prop where
  pools : ∀ p ∈ w.pools, PoolGoodMem w.cfg p w.nextCid ∧ PoolLive w.cfg w.store p
  nd : (w.pools.flatMap ownP).Nodup

/-- **C02 — an operator is in at most one live container.**  If the invariant holds, the scheduler then builds any chain of accepted
`Assignment`s (of operators that have segments), and the executor tick that is handed exactly those assignments (and any suspensions) succeeds,
then the invariant holds again.  In particular the list of all operators in the unfinished suffixes of all live containers has no duplicates
(`WorldLive.nd`), and every one of them is ASSIGNED, RUNNING or SUSPENDING (`PoolLive.busy`). -/
theorem tick_keeps_one_live_container_per_operator (w0 w1 w2 : World) (asgs : List Asg) (sus : List (Nat × Nat)) (res : List Res)
    (hl : WorldLive w0) (hb : Built w0 asgs w1) (hseg : ∀ a ∈ asgs, ∀ r ∈ a.ops, w0.store.segsOf r ≠ [])
    (h : w1.execTick sus asgs = .ok (w2, res)) : WorldLive w2 := by
  obtain ⟨_, _, _, _, _, hex, rfl⟩ := execTick_ok h
  have hfin := execPools_live (poolsLive_of_built hl.pools hl.nd hb hseg).1 hex
  refine ⟨fun p hp => hfin.pools p (by simpa using hp), ?_⟩
  have := hfin.nd
  rw [List.append_nil] at this
  exact (List.nodup_append.mp this).1

/-- the invariant holds in a world that has not started anything yet (non-vacuity of the hypothesis above) -/
theorem fresh_world_live (cfg : Cfg) (store : Store) (caps : List (Nat × Nat)) :
    WorldLive { cfg := cfg, store := store, pools := caps.map (fun c => Pool.fresh c.1 c.2), pipes := #[] } := by
  have r := fresh_world_ready cfg store #[] caps
  exact ⟨fun _ hp => r.live hp, r.nd⟩

/-! The ownership invariant is part of `WorldReady`, which the whole-run theorems of C08 / C18 carry through every tick of every run (`arrivals` is any list of
arrival batches, one per tick: the world after the run is the world at an arbitrary tick boundary). -/

theorem ready_world_one_live_container_per_operator {w : World} (hr : WorldReady w) :
    (w.pools.flatMap ownP).Nodup ∧
    ∀ p ∈ w.pools, ∀ c ∈ p.active ++ p.suspending, c.completed = false ∧
      ∀ o ∈ c.unfinished, w.store.stOf o = OpState.assigned ∨ w.store.stOf o = OpState.running ∨ w.store.stOf o = OpState.suspending := by
  refine ⟨hr.nd, fun p hp c hc => ?_⟩
  have l := (hr.live hp).2
  exact ⟨l.nc c hc, fun o ho => l.busy c hc (l.nc c hc) o ho⟩

/-- **`priority` with multi-operator containers** (pre-emption, write-outs, re-queued work): on every tick of every run from a fresh world no operator is
in two live containers -/
theorem one_live_container_per_operator_on_every_tick_of_every_priority_run (cfg : Cfg) (store : Store) (pipes : Array PipeInfo) (caps : List (Nat × Nat))
    (arrivals : List (List Nat)) (hm : cfg.multiOp = true) (ho : cfg.overcommit = false) (hq : 0 < cfg.q)
    (wf : (freshWorld cfg store pipes caps).WFP) (hs : (freshWorld cfg store pipes caps).SegsOK) (hp : (freshWorld cfg store pipes caps).PidOK)
    (ht : (freshWorld cfg store pipes caps).Topo) (hF : arrivals.flatten.Nodup)
    (hfut : ∀ pid ∈ arrivals.flatten, (pipes.getD pid default).order ≠ [] ∧ ∀ o ∈ (pipes.getD pid default).order, store.stOf o = OpState.pending) :
    ∃ w' st' res', Prio.loop (freshWorld cfg store pipes caps) {} [] arrivals = .ok (w', st', res') ∧ (w'.pools.flatMap ownP).Nodup ∧
      ∀ p ∈ w'.pools, ∀ c ∈ p.active ++ p.suspending, c.completed = false ∧
        ∀ o ∈ c.unfinished, w'.store.stOf o = OpState.assigned ∨ w'.store.stOf o = OpState.running ∨ w'.store.stOf o = OpState.suspending := by
  obtain ⟨w', st', cs', js', h, inv⟩ := PM.fresh_run cfg store pipes caps arrivals hm ho hq wf hs hp ht hF hfut
  exact ⟨w', st', _, h, ready_world_one_live_container_per_operator inv.ready⟩

/-- **`priority-pool` with multi-operator containers** -/
theorem one_live_container_per_operator_on_every_tick_of_every_priority_pool_run (cfg : Cfg) (store : Store) (pipes : Array PipeInfo) (c0 c1 : Nat × Nat)
    (arrivals : List (List Nat)) (hm : cfg.multiOp = true) (hq : 0 < cfg.q) (h0 : 0 < c0.1 ∧ 0 < c0.2) (h1 : 0 < c1.1 ∧ 0 < c1.2)
    (wf : (freshWorld cfg store pipes [c0, c1]).WFP) (hs : (freshWorld cfg store pipes [c0, c1]).SegsOK) (hp : (freshWorld cfg store pipes [c0, c1]).PidOK)
    (ht : (freshWorld cfg store pipes [c0, c1]).Topo) (hF : arrivals.flatten.Nodup)
    (hfut : ∀ pid ∈ arrivals.flatten, (pipes.getD pid default).order ≠ [] ∧ ∀ o ∈ (pipes.getD pid default).order, store.stOf o = OpState.pending) :
    ∃ w' st' res', PP.loop (freshWorld cfg store pipes [c0, c1]) {} [] arrivals = .ok (w', st', res') ∧ (w'.pools.flatMap ownP).Nodup ∧
      ∀ p ∈ w'.pools, ∀ c ∈ p.active ++ p.suspending, c.completed = false ∧
        ∀ o ∈ c.unfinished, w'.store.stOf o = OpState.assigned ∨ w'.store.stOf o = OpState.running ∨ w'.store.stOf o = OpState.suspending := by
  obtain ⟨w', st', cs', h, inv⟩ := PP.fresh_run cfg store pipes c0 c1 arrivals hm hq h0 h1 wf hs hp ht hF hfut
  exact ⟨w', st', _, h, ready_world_one_live_container_per_operator inv.ready⟩

/-- **`overbook`** -/
theorem one_live_container_per_operator_on_every_tick_of_every_overbook_run (cfg : Cfg) (store : Store) (pipes : Array PipeInfo) (caps : List (Nat × Nat))
    (arrivals : List (List Nat)) (ho : cfg.overcommit = true) (hc : ∀ c ∈ caps, 0 < c.2)
    (wf : (freshWorld cfg store pipes caps).WFP) (hs : (freshWorld cfg store pipes caps).SegsOK) :
    ∃ w' st' res', Overbook.loop (freshWorld cfg store pipes caps) {} [] arrivals = .ok (w', st', res') ∧ (w'.pools.flatMap ownP).Nodup ∧
      ∀ p ∈ w'.pools, ∀ c ∈ p.active ++ p.suspending, c.completed = false ∧
        ∀ o ∈ c.unfinished, w'.store.stOf o = OpState.assigned ∨ w'.store.stOf o = OpState.running ∨ w'.store.stOf o = OpState.suspending := by
  obtain ⟨w', st', res', h, inv⟩ := Overbook.fresh_run cfg store pipes caps arrivals ho hc wf hs
  exact ⟨w', st', res', h, ready_world_one_live_container_per_operator inv.ready⟩

/-- **`priority` with single-operator containers** -/
theorem one_live_container_per_operator_on_every_tick_of_every_priority_single_operator_run (cfg : Cfg) (store : Store) (pipes : Array PipeInfo)
    (caps : List (Nat × Nat)) (arrivals : List (List Nat)) (hm : cfg.multiOp = false) (ho : cfg.overcommit = false) (hq : 0 < cfg.q)
    (wf : (freshWorld cfg store pipes caps).WFP) (hs : (freshWorld cfg store pipes caps).SegsOK) (hp : (freshWorld cfg store pipes caps).PidOK)
    (hn : ∀ newP ∈ arrivals, newP.Nodup) :
    ∃ w' st' res', Prio.loop (freshWorld cfg store pipes caps) {} [] arrivals = .ok (w', st', res') ∧ (w'.pools.flatMap ownP).Nodup ∧
      ∀ p ∈ w'.pools, ∀ c ∈ p.active ++ p.suspending, c.completed = false ∧
        ∀ o ∈ c.unfinished, w'.store.stOf o = OpState.assigned ∨ w'.store.stOf o = OpState.running ∨ w'.store.stOf o = OpState.suspending := by
  obtain ⟨w', st', res', h, inv⟩ := Prio.fresh_run_single cfg store pipes caps arrivals hm ho hq wf hs hp hn
  exact ⟨w', st', res', h, ready_world_one_live_container_per_operator inv.ready⟩

end Eudoxia.C02
