import EudoxiaModel.Proofs.Trace
/-! # C13 — trace replay delivers each pipeline once, at the first tick ≥ its arrival

Arrival times are exact fractions `n/d` seconds (the decimal written in the trace file); tick `k`
starts at `k/tps`. -/
namespace Eudoxia.C13
open Eudoxia.Trace

/-- **never before its arrival**: the tick in which a pipeline is delivered starts at or after its arrival time -/
theorem never_before_arrival (n d tps : Nat) (hd : 0 < d) : n * tps ≤ deliverTick n d tps * d :=
  deliver_ge n d tps hd

/-- **in the first such tick**: no earlier tick starts at or after the arrival time -/
theorem first_tick_at_or_after (n d tps k : Nat) (hd : 0 < d) (hk : n * tps ≤ k * d) : deliverTick n d tps ≤ k :=
  deliver_first n d tps k hd hk

/-- rows in arrival order have non-decreasing delivery ticks (the hypothesis of the replay theorems) -/
theorem arrival_order_gives_tick_order (n1 d1 n2 d2 tps : Nat) (h1 : 0 < d1) (h2 : 0 < d2) (h : n1 * d2 ≤ n2 * d1) :
    deliverTick n1 d1 tps ≤ deliverTick n2 d2 tps := deliverTick_mono n1 d1 n2 d2 tps h1 h2 h

/-- **each tick returns exactly the pipelines whose delivery tick it is, in file order** (so pipelines with
equal arrival keep their file order, nothing is returned early, nothing twice) -/
theorem tick_returns_exactly_its_pipelines (ticks : List Nat) (hs : ticks.Pairwise (· ≤ ·)) (n j : Nat) (hj : j < n) :
    (replay ticks 0 n)[j]'(by rw [replay_length]; exact hj) = ticks.filter (· == j) := by
  simpa using replay_spec n ticks 0 hs (fun _ _ => Nat.zero_le _) j hj

/-- **exactly once, and not at all after the end**: over a run of `n` ticks the replay returns, in order,
exactly the pipelines whose delivery tick is below `n` -/
theorem delivered_exactly_once_before_end (ticks : List Nat) (hs : ticks.Pairwise (· ≤ ·)) (n : Nat) :
    (replay ticks 0 n).flatten = ticks.filter (fun t => decide (t < n)) := by
  simpa using replay_flatten n ticks 0 hs (fun _ _ => Nat.zero_le _)

/-- **gentrace round trip**: the arrival written for tick `k` (`k/tps` seconds) is delivered in tick `k` -/
theorem gentrace_roundtrip (k tps : Nat) (ht : 0 < tps) : deliverTick k tps tps = k := deliver_on_grid k tps ht

/-- non-vacuity: 0.1 s at 10 ticks/s is tick 1; 0.11 s is tick 2; three pipelines over three ticks -/
example : deliverTick 1 10 10 = 1 ∧ deliverTick 11 100 10 = 2 ∧ replay [0, 1, 1, 5] 0 3 = [[0], [1, 1], []] := by decide

end Eudoxia.C13
