import EudoxiaModel.Model.Sched.Overbook
import EudoxiaModel.Proofs.WorldInv
import EudoxiaModel.Proofs.OverbookLoop
import EudoxiaModel.Proofs.OverbookExample
import EudoxiaModel.Proofs.FreshWorlds
/-! # C18 — overbook: one operator and one CPU per container, full-pool RAM, CPU-bound -/
namespace Eudoxia.C18
open Eudoxia Eudoxia.Overbook OpState Extracted

/-- the scheduler's CPU snapshot after handing out the assignments `new` -/
def spend (avail : List Int) (new : List Asg) : List Int := new.foldl (fun av a => av.set a.pool (av.getD a.pool 0 - 1)) avail

/-- **C18 per round** (`make_assignments`): every container gets exactly one operator, one CPU and a memory limit equal to its pool's whole RAM;
it goes to a pool that still had a free CPU in the scheduler's snapshot; the operator belongs to a pipeline with fewer than three failed
containers; and if operators are left in the queue, no pool has a free CPU any more. -/
theorem assign_spec (fails : List (Nat × Nat)) : ∀ (q : List Nat) (w : World) (avail : List Int) (acc : List Asg) (w' : World) (q' : List Nat) (out : List Asg),
    assign fails w q avail acc = .ok (w', q', out) →
    ∃ new, out = acc ++ new ∧
      (∀ a ∈ new, a.cpu = 1 ∧ (∃ r, a.ops = [r] ∧ r ∈ q ∧ getFail fails (w.store.pidOf r) < maxFailures) ∧
          a.ram = (w.pools.getD a.pool default).capR) ∧
      (q' ≠ [] → firstFree (spend avail new) = none) ∧ (∀ k, (spend avail new).getD k 0 ≤ avail.getD k 0) ∧
      ((∀ k, 0 ≤ avail.getD k 0) → ∀ k, 0 ≤ (spend avail new).getD k 0) := by
  intro q w avail acc w' q' out h
  induction h using assign_induct with
  | nil => exact ⟨[], (List.append_nil _).symm, fun _ ha => (nomatch ha), fun h => absurd rfl h, fun _ => Int.le_refl _, fun h => h⟩
  | drop _ _ _ ih =>
    obtain ⟨new, h1, h2, h3⟩ := ih
    exact ⟨new, h1, fun a ha => let ⟨x, ⟨r', e1, e2, e3⟩, z⟩ := h2 a ha; ⟨x, ⟨r', e1, List.mem_cons_of_mem _ e2, e3⟩, z⟩, h3⟩
  | full _ _ hnone => exact ⟨[], (List.append_nil _).symm, fun _ ha => (nomatch ha), fun _ => hnone, fun _ => Int.le_refl _, fun h => h⟩
  | serve w r avail k _ hlt hk hm _ ih =>
    obtain ⟨new, h1, h2, h3, h4, h5⟩ := ih
    -- the construction changes operator states only, and `spend avail (a :: new)` is `spend (avail.set k (avail.getD k 0 - 1)) new`
    refine ⟨⟨[r], 1, (w.pools.getD k default).capR, w.prioOf (w.store.pidOf r), k⟩ :: new, by rw [h1, List.append_assoc]; rfl, fun a ha => ?_, h3,
      fun j => Int.le_trans (h4 j) (take_cpu hk j).1, fun hnn => h5 fun i => (take_cpu hk i).2 (hnn i)⟩
    rcases List.mem_cons.mp ha with rfl | ha'
    · exact ⟨rfl, ⟨r, rfl, List.mem_cons_self, hlt⟩, rfl⟩
    · obtain ⟨x, ⟨r', e1, e2, e3⟩, z⟩ := h2 a ha'
      exact ⟨x, ⟨r', e1, List.mem_cons_of_mem _ e2, (mkAssignment_steps_ok hm).pidOf r' ▸ e3⟩, (mkAssignment_pools_ok hm).1 ▸ z⟩

theorem never_suspends (w w' : World) (st st' : St) (res : List Res) (newP : List Nat) (dec : Decision)
    (h : round w st res newP = .ok (w', st', dec)) : dec.sus = [] := by
  rcases round_ok h with ⟨_, _, rfl⟩ | ⟨_, _, _, _, _, _, rfl⟩ <;> rfl

/-- **the overbook scheduler never raises over whole runs** (closed loop with the executor, memory overcommit on, either container mode): its queue holds
distinct, existing, ready operators (`QOK`); every container it starts holds one operator, one CPU and the whole pool's RAM on a pool whose free CPUs it does not
exceed, so the executor's gates let every round through; an executor tick without suspensions never touches a PENDING or FAILED operator, so the queue stays good.
By induction over ticks, for every sequence of arrival batches.  The invariant holds again in the world the run ends in — hence at every tick boundary of every
run: **every container holds exactly one operator and no write-out is ever in progress** (`OBInv.single`, `OBInv.nosusp`). -/
theorem overbook_run_never_raises (arrivals : List (List Nat)) (w : World) (st : St) (res : List Res) (inv : OBInv w st res) :
    ∃ w' st' res', Overbook.loop w st res arrivals = .ok (w', st', res') ∧ OBInv w' st' res' :=
  Overbook.run_never_raises arrivals w st res inv

/-- the hypotheses are met by a concrete world (diamond DAG, two pools, overcommit on, nothing started): non-vacuity -/
theorem overbook_theorem_applies_to_a_concrete_world (multi : Bool) (arrivals : List (List Nat)) :
    ∃ out, Overbook.loop (OverbookExample.world multi) {} [] arrivals = .ok out :=
  OverbookExample.runs multi arrivals

/-- **from every fresh world**: any configuration with memory overcommit on (either container mode), any pools with some RAM, any registered workload whose
pipelines list existing operators once and give each a segment, any arrival batches: the run of overbook and the executor reaches its last tick, and ends — as
it was at every tick boundary — with one operator per container and no write-out in progress -/
theorem overbook_runs_from_every_fresh_world (cfg : Cfg) (store : Store) (pipes : Array PipeInfo) (caps : List (Nat × Nat)) (arrivals : List (List Nat))
    (ho : cfg.overcommit = true) (hc : ∀ c ∈ caps, 0 < c.2)
    (wf : (freshWorld cfg store pipes caps).WFP) (hs : (freshWorld cfg store pipes caps).SegsOK) :
    ∃ w' st' res', Overbook.loop (freshWorld cfg store pipes caps) {} [] arrivals = .ok (w', st', res') ∧ OBInv w' st' res' :=
  Overbook.fresh_run cfg store pipes caps arrivals ho hc wf hs

end Eudoxia.C18
