import EudoxiaModel.Proofs.WorldInv
import EudoxiaModel.Model.Obs
import EudoxiaModel.Proofs.TickFrame
import EudoxiaModel.Proofs.FreshWorlds
/-! # C03 — pool CPU and RAM are conserved: never lost, never double-freed, never oversold -/
namespace Eudoxia.C03
open Eudoxia

/-- **C03.1 + C03.2 (full strength).**  In every world reachable under arbitrary command sequences
(assignments of any size, suspensions at any moment, legal or not, continuing after refused batches),
in every pool: free CPU plus the CPU allocated to all running and suspending containers equals the
pool's CPU capacity, the same for RAM; free CPU is never negative and free RAM is never negative unless
memory overcommit is enabled; capacities never change.  Because this holds at *every* tick boundary with
constant capacity, an allocation cannot have been lost or returned twice; that reading is an argument
about the statement, not a further conjunct of it. -/
theorem conserved_nonneg {w0 w : World} (g0 : w0.PoolsGood) (h : Reach w0 w) :
    (∀ p ∈ w.pools,
      p.availC + cpuSum p.active + cpuSum p.suspending = p.capC ∧
      p.availR + ramSum p.active + ramSum p.suspending = p.capR ∧
      0 ≤ p.availC ∧ (w.cfg.overcommit = false → 0 ≤ p.availR)) ∧
    w.caps = w0.caps := by
  obtain ⟨g, hc, _⟩ := reach_good h g0
  exact ⟨fun p hp => ⟨(g p hp).inv.cpu, (g p hp).inv.ram, (g p hp).nonneg.1, (g p hp).nonneg.2⟩, hc⟩

/-- a freshly configured executor satisfies the hypothesis of `conserved_nonneg` -/
theorem fresh_world_good (cfg : Cfg) (npools cpus ram : Nat) :
    ({ cfg := cfg, pools := List.replicate npools (Pool.fresh cpus ram) } : World).PoolsGood := by
  intro p hp
  have := List.eq_of_mem_replicate hp
  subst this
  exact ⟨poolInv_fresh _ _ _, by simp [Pool.NonNeg, Pool.fresh]⟩

/-- **C03.3a.**  A batch whose summed CPU exceeds the pool's free CPU is refused. -/
theorem oversold_cpu_is_refused (cfg : Cfg) (p : Pool) (as : List Asg) (h : (cpuReq as : Int) > p.availC) :
    verifyAssignments cfg p as = .error .overCpu := by
  unfold verifyAssignments; simp [h]

/-- **C03.3b.**  Without overcommit, a batch whose summed RAM exceeds the pool's free RAM is refused. -/
theorem oversold_ram_is_refused (cfg : Cfg) (p : Pool) (as : List Asg) (hc : (cpuReq as : Int) ≤ p.availC)
    (ho : cfg.overcommit = false) (h : (ramReq as : Int) > p.availR) :
    verifyAssignments cfg p as = .error .overRam := by
  unfold verifyAssignments
  have : ¬ ((cpuReq as : Int) > p.availC) := by omega
  simp [this, ho, h]

/-- **C03.3c.**  A refused batch is rejected as a whole: no container of it exists afterwards (the container
counter is unchanged and the running containers are among those that ran before). -/
theorem refused_batch_creates_no_container {cfg : Cfg} {w w' : Store} {p p' : Pool} {n n' : Nat} {cm : Cmds} {e : Err}
    (he : e = .overCpu ∨ e = .overRam) (h : poolTick cfg w p n cm = .error (e, some (w', p', n'))) :
    n' = n ∧ (cids p'.active).Sublist (cids p.active) := by
  rcases poolTick_err h with ⟨_, _, rfl, rfl⟩ | ⟨hs, _, rfl⟩ | ⟨_, _, _, hst⟩
  · exact ⟨rfl, .refl _⟩
  · exact ⟨rfl, (susPhase_frame hs).2.map _⟩
  · -- a start is refused for the operator count only
    rw [startAll_err_opCount hst] at he
    rcases he with he | he <;> cases he

/-- **The checker evaluated on implementation traces is the theorem's statement**: on the observation of any
pool satisfying the invariant, `conservedB` (the conservation clause of `check_C03`) is true — so every
trace of the model passes it, and a trace of the implementation that fails it exhibits a violation. -/
theorem checker_accepts_invariant {cfg : Cfg} {p : Pool} {n : Nat} (g : p.Good cfg n) :
    conservedB cfg.overcommit p.toObs = true := by
  obtain ⟨⟨hc, hr, _, _⟩, h0, h1⟩ := g
  unfold conservedB Pool.toObs
  simp only [isum, fieldSum_obs, Bool.and_eq_true, beq_iff_eq, decide_eq_true_eq, Bool.or_eq_true]
  refine ⟨⟨⟨hc, hr⟩, h0⟩, ?_⟩
  cases ho : cfg.overcommit
  · right; exact h1 ho
  · left; rfl

/-- non-vacuity: a pool with one running and one suspending container meets the invariant -/
example : PoolInv { capC := 8, capR := 512, availC := 5, availR := 128,
                    active := [{ cid := 0, ops := [0], cpu := 2, ram := 256, pos := { ops := [] } }],
                    suspending := [{ cid := 1, ops := [1], cpu := 1, ram := 128, pos := { ops := [] } }] } 2 := by
  constructor <;> simp [cpuSum, ramSum, cids]

/-- **a container's allocation is returned in the tick it completes**: in a ready world — every world between two ticks of a run — a container that still holds
an allocation as a running container has an operator left to run; so the clause `unfinishedB` ("returned-when-finished") of `check_C03` is true on every state
of the model, and an implementation state that fails it shows a finished container still holding its CPU and RAM -/
theorem running_containers_have_work_left {w : World} (hr : WorldReady w) : (w.toObs.pools.all unfinishedB) = true := by
  simp only [World.toObs, List.all_map, List.all_eq_true, Function.comp]
  intro p hp
  simp only [unfinishedB, Pool.toObs, List.all_map, List.all_eq_true, Function.comp, Ctr.toObs, decide_eq_true_eq]
  intro c hc
  have hne := active_unf_ne hr hp hc
  apply decide_eq_true
  apply Classical.byContradiction
  intro hge
  apply hne
  unfold Ctr.unfinished
  exact List.drop_eq_nil_of_le (by omega)

/-! ### full simulations under the shipped schedulers

The whole-run theorems of C08 / C18 carry the executor's invariant
(`WorldReady`) through every tick of every run; conservation is part of it.  Since `arrivals` is any list of arrival batches — one per tick — the world
"after the run" is the world at an arbitrary tick boundary. -/

theorem ready_world_is_conserved {w : World} (hr : WorldReady w) :
    ∀ p ∈ w.pools,
      p.availC + cpuSum p.active + cpuSum p.suspending = p.capC ∧
      p.availR + ramSum p.active + ramSum p.suspending = p.capR ∧
      0 ≤ p.availC ∧ (w.cfg.overcommit = false → 0 ≤ p.availR) := by
  intro p hp
  have g := (hr.pools p hp).1.good
  exact ⟨g.inv.cpu, g.inv.ram, g.nonneg.1, g.nonneg.2⟩

/-- **`priority` (multi-operator containers: pre-emption, write-outs, re-queued work)**: from every fresh world with a well-formed workload, for any arrival
batches, the run reaches its last tick and at that tick boundary CPU and RAM are conserved in every pool and neither is oversold -/
theorem conserved_on_every_tick_of_every_priority_run (cfg : Cfg) (store : Store) (pipes : Array PipeInfo) (caps : List (Nat × Nat))
    (arrivals : List (List Nat)) (hm : cfg.multiOp = true) (ho : cfg.overcommit = false) (hq : 0 < cfg.q)
    (wf : (freshWorld cfg store pipes caps).WFP) (hs : (freshWorld cfg store pipes caps).SegsOK) (hp : (freshWorld cfg store pipes caps).PidOK)
    (ht : (freshWorld cfg store pipes caps).Topo) (hF : arrivals.flatten.Nodup)
    (hfut : ∀ pid ∈ arrivals.flatten, (pipes.getD pid default).order ≠ [] ∧ ∀ o ∈ (pipes.getD pid default).order, store.stOf o = OpState.pending) :
    ∃ w' st' res', Prio.loop (freshWorld cfg store pipes caps) {} [] arrivals = .ok (w', st', res') ∧
      ∀ p ∈ w'.pools,
        p.availC + cpuSum p.active + cpuSum p.suspending = p.capC ∧ p.availR + ramSum p.active + ramSum p.suspending = p.capR ∧
        0 ≤ p.availC ∧ 0 ≤ p.availR := by
  obtain ⟨w', st', cs', js', h, inv⟩ := PM.fresh_run cfg store pipes caps arrivals hm ho hq wf hs hp ht hF hfut
  refine ⟨w', st', _, h, fun p hp => ?_⟩
  obtain ⟨a, b, c, d⟩ := ready_world_is_conserved inv.ready p hp
  exact ⟨a, b, c, d inv.over⟩

/-- **`priority-pool` (multi-operator containers)**: the same, on its two pools -/
theorem conserved_on_every_tick_of_every_priority_pool_run (cfg : Cfg) (store : Store) (pipes : Array PipeInfo) (c0 c1 : Nat × Nat)
    (arrivals : List (List Nat)) (hm : cfg.multiOp = true) (hq : 0 < cfg.q) (h0 : 0 < c0.1 ∧ 0 < c0.2) (h1 : 0 < c1.1 ∧ 0 < c1.2)
    (wf : (freshWorld cfg store pipes [c0, c1]).WFP) (hs : (freshWorld cfg store pipes [c0, c1]).SegsOK) (hp : (freshWorld cfg store pipes [c0, c1]).PidOK)
    (ht : (freshWorld cfg store pipes [c0, c1]).Topo) (hF : arrivals.flatten.Nodup)
    (hfut : ∀ pid ∈ arrivals.flatten, (pipes.getD pid default).order ≠ [] ∧ ∀ o ∈ (pipes.getD pid default).order, store.stOf o = OpState.pending) :
    ∃ w' st' res', PP.loop (freshWorld cfg store pipes [c0, c1]) {} [] arrivals = .ok (w', st', res') ∧
      ∀ p ∈ w'.pools,
        p.availC + cpuSum p.active + cpuSum p.suspending = p.capC ∧ p.availR + ramSum p.active + ramSum p.suspending = p.capR ∧
        0 ≤ p.availC ∧ (w'.cfg.overcommit = false → 0 ≤ p.availR) := by
  obtain ⟨w', st', cs', h, inv⟩ := PP.fresh_run cfg store pipes c0 c1 arrivals hm hq h0 h1 wf hs hp ht hF hfut
  exact ⟨w', st', _, h, ready_world_is_conserved inv.ready⟩

/-- **`overbook` (memory overcommit enabled)**: CPU and RAM are conserved and CPU is never oversold; free RAM may be negative — that is what overcommit means -/
theorem conserved_on_every_tick_of_every_overbook_run (cfg : Cfg) (store : Store) (pipes : Array PipeInfo) (caps : List (Nat × Nat))
    (arrivals : List (List Nat)) (ho : cfg.overcommit = true) (hc : ∀ c ∈ caps, 0 < c.2)
    (wf : (freshWorld cfg store pipes caps).WFP) (hs : (freshWorld cfg store pipes caps).SegsOK) :
    ∃ w' st' res', Overbook.loop (freshWorld cfg store pipes caps) {} [] arrivals = .ok (w', st', res') ∧
      ∀ p ∈ w'.pools,
        p.availC + cpuSum p.active + cpuSum p.suspending = p.capC ∧ p.availR + ramSum p.active + ramSum p.suspending = p.capR ∧ 0 ≤ p.availC := by
  obtain ⟨w', st', res', h, inv⟩ := Overbook.fresh_run cfg store pipes caps arrivals ho hc wf hs
  refine ⟨w', st', res', h, fun p hp => ?_⟩
  obtain ⟨a, b, c, _⟩ := ready_world_is_conserved inv.ready p hp
  exact ⟨a, b, c⟩

/-- **`priority` with single-operator containers** (the mode in which it never pre-empts): the same, for any arrival batches without repetitions inside a batch -/
theorem conserved_on_every_tick_of_every_priority_single_operator_run (cfg : Cfg) (store : Store) (pipes : Array PipeInfo) (caps : List (Nat × Nat))
    (arrivals : List (List Nat)) (hm : cfg.multiOp = false) (ho : cfg.overcommit = false) (hq : 0 < cfg.q)
    (wf : (freshWorld cfg store pipes caps).WFP) (hs : (freshWorld cfg store pipes caps).SegsOK) (hp : (freshWorld cfg store pipes caps).PidOK)
    (hn : ∀ newP ∈ arrivals, newP.Nodup) :
    ∃ w' st' res', Prio.loop (freshWorld cfg store pipes caps) {} [] arrivals = .ok (w', st', res') ∧
      ∀ p ∈ w'.pools,
        p.availC + cpuSum p.active + cpuSum p.suspending = p.capC ∧ p.availR + ramSum p.active + ramSum p.suspending = p.capR ∧
        0 ≤ p.availC ∧ 0 ≤ p.availR ∧ p.suspending = [] := by
  obtain ⟨w', st', res', h, inv⟩ := Prio.fresh_run_single cfg store pipes caps arrivals hm ho hq wf hs hp hn
  refine ⟨w', st', res', h, fun p hp => ?_⟩
  obtain ⟨a, b, c, d⟩ := ready_world_is_conserved inv.ready p hp
  exact ⟨a, b, c, d inv.over, inv.nosusp p hp⟩

end Eudoxia.C03
