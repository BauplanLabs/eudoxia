import EudoxiaModel.Proofs.Reach
import EudoxiaModel.Proofs.Dag
/-! # C01 — operators never start before their parents have completed; DAG iteration -/
namespace Eudoxia.C01
open Eudoxia OpState

/-- **C01.1 (state form, full strength).**  In every world reachable from a fresh one under arbitrary —
also inadmissible — commands, an operator is running or completed only if all its parents are completed. -/
theorem running_or_completed_implies_parents_completed {w0 w : World} (h0 : w0.Fresh) (h : Reach w0 w) :
    ∀ r, (w.store.stOf r = running ∨ w.store.stOf r = completed) →
      ∀ p ∈ w.store.parentsOf r, w.store.stOf p = completed :=
  parentsInv_steps h.steps (fresh_parentsInv h0)

/-- **C01.1 (history form).**  The parents of an operator that is running or completed at some reachable
world were already completed at the moment it started: at *every* later world they still are, because
completion is final — so "completed before it started" and "completed now" coincide. -/
theorem parents_stay_completed {w0 w w' : World} (h0 : w0.Fresh) (h : Reach w0 w) (h' : Reach w w')
    (r : Nat) (hr : w.store.stOf r = running ∨ w.store.stOf r = completed) :
    ∀ p ∈ w.store.parentsOf r, w'.store.stOf p = completed := by
  intro p hp
  exact completed_final h'.steps p (running_or_completed_implies_parents_completed h0 h r hr p hp)

/-- **C01.2.**  A container whose next operator has a parent that is not completed cannot start it:
the generator step of its tick (`advance`) is refused with the dependency error.  (The error value carries no
operator table, so there is nothing the refused step could have changed.) -/
theorem start_with_unfinished_parent_rejected (cfg : Cfg) (w : Store) (c : Ctr) (cons : Int)
    (r : Nat) (segs : List Seg) (rest : List (Nat × List Seg))
    (hf : c.frozen = false) (hops : c.pos.ops = (r, segs) :: rest) (hst : c.pos.started = false)
    (hr : w.stOf r = assigned) (hb : r < w.st.size)
    (hpar : ∃ p ∈ w.parentsOf r, w.stOf p ≠ completed) :
    advance cfg w c cons = .error .deps := by
  obtain ⟨p, hp, hne⟩ := hpar
  have hall : (w.parentsOf r).all (fun p => w.stOf p == completed) = false :=
    Bool.eq_false_iff.mpr fun h => hne (by simpa using List.all_eq_true.mp h p hp)
  have ht : w.transition r running = .error .deps := by
    simp [Store.transition, Store.check, hb, hr, hall, show running ∈ Extracted.validNext assigned by decide]
  have hseek : seek w cfg c = .error .deps := by
    unfold seek
    split
    · rename_i h; rw [hops] at h; cases h
    · rename_i h
      rw [hops] at h
      cases h
      simp only [hst, Bool.not_false, ↓reduceDIte, ht]
  simp only [advance, hf, Bool.false_eq_true, ↓reduceIte, hseek]

/-- **C01.3.**  Iterating a DAG built by `add_node` (every parent is an earlier node, parent lists are
duplicate-free) visits every node exactly once, parents before children. -/
theorem iteration_visits_each_node_once_parents_first {d : Dag.Dag} (wf : Dag.WF d) :
    (Dag.iterOrder d).Perm (List.range d.length) ∧ Dag.Topo d (Dag.iterOrder d) :=
  Dag.iterOrder_perm_topo wf

/-- non-vacuity: a diamond with an extra root satisfies the hypotheses, and the iterator's answer on it -/
example : Dag.WF [[], [0], [0], [1, 2], []] ∧ Dag.iterOrder [[], [0], [0], [1, 2], []] = [0, 4, 1, 2, 3] := by
  refine ⟨⟨?_, ?_⟩, by decide⟩
  · intro i p hp
    match i, hp with
    | 0, hp => simp [Dag.parentsOf] at hp
    | 1, hp => simp [Dag.parentsOf] at hp; omega
    | 2, hp => simp [Dag.parentsOf] at hp; omega
    | 3, hp => simp [Dag.parentsOf] at hp; omega
    | 4, hp => simp [Dag.parentsOf] at hp
    | n+5, hp => simp [Dag.parentsOf] at hp
  · intro i
    match i with
    | 0 | 1 | 2 | 3 | 4 => simp [Dag.parentsOf]
    | n+5 => simp [Dag.parentsOf]

end Eudoxia.C01
