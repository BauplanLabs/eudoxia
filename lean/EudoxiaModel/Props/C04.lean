import EudoxiaModel.Proofs.Lift
import EudoxiaModel.Model.Obs
import EudoxiaModel.Proofs.FreshWorlds
/-! # C04 — memory limits hold after every tick and reported usage is the real usage -/
namespace Eudoxia.C04
open Eudoxia

/-- **C04.1–C04.3 (full strength).**  In every world reachable under arbitrary command sequences, at every tick boundary,
in every pool: no running container uses more memory than it was allocated (and none is finished or frozen), the usage
the pool reports is the sum of the current use of its running containers, and it does not exceed the pool's capacity. -/
theorem limits_and_reported_usage {w0 w : World} (g0 : w0.AllPools PoolGoodMem) (h : Reach w0 w) :
    ∀ p ∈ w.pools,
      (∀ c ∈ p.active, c.mem ≤ c.ram ∧ c.completed = false ∧ c.frozen = false) ∧
      p.consumed = memSum p.active ∧ p.consumed ≤ p.capR := by
  intro p hp
  obtain ⟨_, m⟩ := reach_lift goodMem_phases.tick h g0 p hp
  exact ⟨fun c hc => ⟨(m.ok c hc).within, (m.ok c hc).unfinished, (m.ok c hc).unfrozen⟩, m.sum, m.cap⟩

/-- a freshly configured executor satisfies the hypothesis -/
theorem fresh_world_good (cfg : Cfg) (npools cpus ram : Nat) :
    ({ cfg := cfg, pools := List.replicate npools (Pool.fresh cpus ram) } : World).AllPools PoolGoodMem := by
  intro p hp
  have := List.eq_of_mem_replicate hp
  subst this
  exact ⟨⟨poolInv_fresh _ _ _, by simp [Pool.NonNeg, Pool.fresh]⟩, memOK_fresh _ _⟩

/-- a pool with no running container reports zero -/
theorem idle_pool_reports_zero (p : Pool) (m : MemOK p) (h : p.active = []) : p.consumed = 0 := by
  rw [m.sum, h]; rfl

/-- **C04.4a — kills are justified.**  The killer's first step kills exactly the containers whose own demand exceeds their own
allocation; its second (pool-level) step does nothing unless the usage that is left still exceeds the pool's capacity. -/
theorem kills_are_justified {w w' : Store} {p p' : Pool} (hnd : (cids p.active).Nodup) (hT : ∀ c ∈ p.active, CtrTicked c)
    (hs : p.consumed = memSum p.active) (h : oomKiller w p = .ok (w', p')) :
    ∃ act1, act1 = p.active.map (fun c => if c.mem > c.ram then killedCtr c else c) ∧ (memSum act1 ≤ p.capR → p'.active = act1) :=
  (oomKiller_mem hnd hT hs h).2.2.2

/-- **C04.4b — without overcommit a container that stays within its allocation is never killed**: the usage left after the
first step is at most the allocated RAM, which without overcommit is at most the capacity, so the pool-level step never runs. -/
theorem no_overcommit_no_innocent_kill {cfg : Cfg} {w w' : Store} {p p' : Pool} {n : Nat} (ho : cfg.overcommit = false)
    (g : p.Good cfg n) (hT : ∀ c ∈ p.active, CtrTicked c) (hs : p.consumed = memSum p.active)
    (h : oomKiller w p = .ok (w', p')) :
    p'.active = p.active.map (fun c => if c.mem > c.ram then killedCtr c else c) := by
  have hnd : (cids p.active).Nodup := g.inv.activeNodup
  obtain ⟨act1, e1, himp⟩ := kills_are_justified hnd hT hs h
  rw [← e1]
  apply himp
  -- after step 1 everybody is within the own allocation (or killed, using nothing)
  have hle : memSum act1 ≤ ramSum act1 := by
    apply memSum_le_ramSum
    intro c hc
    rw [e1] at hc
    obtain ⟨x, _, rfl⟩ := List.mem_map.mp hc
    split
    · simp [killedCtr]
    · rename_i hx; omega
  have hram : ramSum act1 = ramSum p.active := by
    apply ramSum_keys
    rw [e1, List.map_map]
    apply List.map_congr_left
    intro x _
    simp only [Function.comp]; split <;> rfl
  have h1 := g.inv.ram
  have h2 := g.nonneg.2 ho
  have h3 := ramSum_nonneg p.suspending
  omega

/-- the checker evaluated on implementation traces (`memoryOkB`, clause memory-limits of `check_C04`) accepts every state that satisfies the invariant -/
theorem checker_accepts_invariant {p : Pool} (m : MemOK p) : memoryOkB p.toObs = true := by
  unfold memoryOkB Pool.toObs
  simp only [isum, fieldSum_obs, Bool.and_eq_true, List.all_eq_true, decide_eq_true_eq, beq_iff_eq, List.mem_map]
  refine ⟨⟨?_, m.sum⟩, m.cap⟩
  rintro _ ⟨c, hc, rfl⟩
  exact (m.ok c hc).within

/-! ### full simulations under the shipped schedulers (the property's "for all full simulations")

The executor's invariant `WorldReady`, which the whole-run theorems of C08 / C18 carry through every tick of every run, contains the memory invariant.
`arrivals` is any list of arrival batches, one per tick, so the world after the run is the world at an arbitrary tick boundary. -/

theorem ready_world_keeps_limits {w : World} (hr : WorldReady w) :
    ∀ p ∈ w.pools,
      (∀ c ∈ p.active, c.mem ≤ c.ram ∧ c.completed = false ∧ c.frozen = false) ∧
      p.consumed = memSum p.active ∧ p.consumed ≤ p.capR := by
  intro p hp
  have m := (hr.pools p hp).1.mem
  exact ⟨fun c hc => ⟨(m.ok c hc).within, (m.ok c hc).unfinished, (m.ok c hc).unfrozen⟩, m.sum, m.cap⟩

/-- **`priority` (multi-operator containers, pre-emption)**: on every tick of every run from a fresh world, every running container is within its allocation
and the reported usage is the real usage and fits the pool -/
theorem limits_hold_on_every_tick_of_every_priority_run (cfg : Cfg) (store : Store) (pipes : Array PipeInfo) (caps : List (Nat × Nat))
    (arrivals : List (List Nat)) (hm : cfg.multiOp = true) (ho : cfg.overcommit = false) (hq : 0 < cfg.q)
    (wf : (freshWorld cfg store pipes caps).WFP) (hs : (freshWorld cfg store pipes caps).SegsOK) (hp : (freshWorld cfg store pipes caps).PidOK)
    (ht : (freshWorld cfg store pipes caps).Topo) (hF : arrivals.flatten.Nodup)
    (hfut : ∀ pid ∈ arrivals.flatten, (pipes.getD pid default).order ≠ [] ∧ ∀ o ∈ (pipes.getD pid default).order, store.stOf o = OpState.pending) :
    ∃ w' st' res', Prio.loop (freshWorld cfg store pipes caps) {} [] arrivals = .ok (w', st', res') ∧
      ∀ p ∈ w'.pools, (∀ c ∈ p.active, c.mem ≤ c.ram ∧ c.completed = false ∧ c.frozen = false) ∧ p.consumed = memSum p.active ∧ p.consumed ≤ p.capR := by
  obtain ⟨w', st', cs', js', h, inv⟩ := PM.fresh_run cfg store pipes caps arrivals hm ho hq wf hs hp ht hF hfut
  exact ⟨w', st', _, h, ready_world_keeps_limits inv.ready⟩

/-- **`priority-pool` (multi-operator containers)** -/
theorem limits_hold_on_every_tick_of_every_priority_pool_run (cfg : Cfg) (store : Store) (pipes : Array PipeInfo) (c0 c1 : Nat × Nat)
    (arrivals : List (List Nat)) (hm : cfg.multiOp = true) (hq : 0 < cfg.q) (h0 : 0 < c0.1 ∧ 0 < c0.2) (h1 : 0 < c1.1 ∧ 0 < c1.2)
    (wf : (freshWorld cfg store pipes [c0, c1]).WFP) (hs : (freshWorld cfg store pipes [c0, c1]).SegsOK) (hp : (freshWorld cfg store pipes [c0, c1]).PidOK)
    (ht : (freshWorld cfg store pipes [c0, c1]).Topo) (hF : arrivals.flatten.Nodup)
    (hfut : ∀ pid ∈ arrivals.flatten, (pipes.getD pid default).order ≠ [] ∧ ∀ o ∈ (pipes.getD pid default).order, store.stOf o = OpState.pending) :
    ∃ w' st' res', PP.loop (freshWorld cfg store pipes [c0, c1]) {} [] arrivals = .ok (w', st', res') ∧
      ∀ p ∈ w'.pools, (∀ c ∈ p.active, c.mem ≤ c.ram ∧ c.completed = false ∧ c.frozen = false) ∧ p.consumed = memSum p.active ∧ p.consumed ≤ p.capR := by
  obtain ⟨w', st', cs', h, inv⟩ := PP.fresh_run cfg store pipes c0 c1 arrivals hm hq h0 h1 wf hs hp ht hF hfut
  exact ⟨w', st', _, h, ready_world_keeps_limits inv.ready⟩

/-- **`overbook` (memory overcommit enabled)**: allocations may add up to more than the pool, the memory actually used never does after a tick -/
theorem limits_hold_on_every_tick_of_every_overbook_run (cfg : Cfg) (store : Store) (pipes : Array PipeInfo) (caps : List (Nat × Nat))
    (arrivals : List (List Nat)) (ho : cfg.overcommit = true) (hc : ∀ c ∈ caps, 0 < c.2)
    (wf : (freshWorld cfg store pipes caps).WFP) (hs : (freshWorld cfg store pipes caps).SegsOK) :
    ∃ w' st' res', Overbook.loop (freshWorld cfg store pipes caps) {} [] arrivals = .ok (w', st', res') ∧
      ∀ p ∈ w'.pools, (∀ c ∈ p.active, c.mem ≤ c.ram ∧ c.completed = false ∧ c.frozen = false) ∧ p.consumed = memSum p.active ∧ p.consumed ≤ p.capR := by
  obtain ⟨w', st', res', h, inv⟩ := Overbook.fresh_run cfg store pipes caps arrivals ho hc wf hs
  exact ⟨w', st', res', h, ready_world_keeps_limits inv.ready⟩

/-- **`priority` with single-operator containers** -/
theorem limits_hold_on_every_tick_of_every_priority_single_operator_run (cfg : Cfg) (store : Store) (pipes : Array PipeInfo) (caps : List (Nat × Nat))
    (arrivals : List (List Nat)) (hm : cfg.multiOp = false) (ho : cfg.overcommit = false) (hq : 0 < cfg.q)
    (wf : (freshWorld cfg store pipes caps).WFP) (hs : (freshWorld cfg store pipes caps).SegsOK) (hp : (freshWorld cfg store pipes caps).PidOK)
    (hn : ∀ newP ∈ arrivals, newP.Nodup) :
    ∃ w' st' res', Prio.loop (freshWorld cfg store pipes caps) {} [] arrivals = .ok (w', st', res') ∧
      ∀ p ∈ w'.pools, (∀ c ∈ p.active, c.mem ≤ c.ram ∧ c.completed = false ∧ c.frozen = false) ∧ p.consumed = memSum p.active ∧ p.consumed ≤ p.capR := by
  obtain ⟨w', st', res', h, inv⟩ := Prio.fresh_run_single cfg store pipes caps arrivals hm ho hq wf hs hp hn
  exact ⟨w', st', res', h, ready_world_keeps_limits inv.ready⟩

end Eudoxia.C04
