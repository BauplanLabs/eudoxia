import EudoxiaModel.Model.Sim
import EudoxiaModel.Model.Sweep
import EudoxiaModel.Proofs.Store
import EudoxiaModel.Proofs.Complete
import EudoxiaModel.Proofs.PrioMulti
import EudoxiaModel.Proofs.OnePipeRounds
/-! # C06 — completion, latency and returned statistics match an independent recount -/
namespace Eudoxia.C06
open Eudoxia.Sim Extracted

theorem foldl_stepC (es : List TickEv) (c : Counters) :
    es.foldl stepC c =
      { created := c.created + (es.map (·.arrivals.length)).sum,
        asg := c.asg + (es.map (·.nAsg)).sum,
        sus := c.sus + (es.map (·.nSus)).sum,
        failures := c.failures + (es.flatMap (·.results)).countP (!·.1),
        okContainers := c.okContainers + (es.flatMap (·.results)).countP (·.1),
        tickTimes := c.tickTimes ++ (es.flatMap (·.results)).map (·.2),
        arrQ := c.arrQ + countPrio prioQuery (es.flatMap (·.arrivals)),
        arrI := c.arrI + countPrio prioInteractive (es.flatMap (·.arrivals)),
        arrB := c.arrB + countPrio prioBatch (es.flatMap (·.arrivals)),
        latQ := c.latQ ++ latOf prioQuery (es.flatMap (·.finished)),
        latI := c.latI ++ latOf prioInteractive (es.flatMap (·.finished)),
        latB := c.latB ++ latOf prioBatch (es.flatMap (·.finished)) } := by
  induction es generalizing c with
  | nil => simp [countPrio, latOf]
  | cons e es ih =>
    rw [List.foldl_cons, ih]
    simp only [stepC, List.map_cons, List.sum_cons, List.flatMap_cons, List.map_append, countPrio,
      latOf, List.filter_append, List.length_append, List.append_assoc, Nat.add_assoc, List.countP_eq_length_filter]

/-- **the statistics the loop accumulates equal an independent recount of the run** -/
theorem loop_equals_recount (es : List TickEv) : loopC es = recount es := by
  unfold loopC recount
  rw [foldl_stepC]
  simp

/-- the returned statistics are those of the recount -/
theorem stats_equal_recount (es : List TickEv) : statsOf (loopC es) = statsOf (recount es) := by
  rw [loop_equals_recount]

theorem countPrio_cons (q p : Nat) (l : List Nat) : countPrio q (p :: l) = countPrio q l + if p = q then 1 else 0 := by
  simp only [countPrio, List.filter_cons, beq_iff_eq]
  split <;> rfl

/-- **arrivals per priority partition the total** (every pipeline has one of the three priorities) -/
theorem arrivals_partition (l : List Nat) (h : ∀ p ∈ l, p = prioQuery ∨ p = prioInteractive ∨ p = prioBatch) :
    countPrio prioQuery l + countPrio prioInteractive l + countPrio prioBatch l = l.length := by
  induction l with
  | nil => rfl
  | cons p ps ih =>
    have ih' := ih fun x hx => h x (List.mem_cons_of_mem _ hx)
    simp only [countPrio_cons, List.length_cons]
    -- the head is counted in exactly one class: the three priorities are 1, 2, 3
    rcases h p (List.mem_cons_self ..) with rfl | rfl | rfl <;> simp only [prioQuery, prioInteractive, prioBatch, Nat.reduceEqDiff, ↓reduceIte] at ih' ⊢ <;> omega

/-- **completions per priority partition the completed pipelines**, and mean / p99 are over exactly those latencies -/
theorem completions_partition (c : Counters) :
    (statsOf c).all.completions = (statsOf c).query.completions + (statsOf c).interactive.completions + (statsOf c).batch.completions ∧
    (statsOf c).all.mean = mean? (c.latQ ++ c.latI ++ c.latB) ∧ (statsOf c).all.p99 = p99? (c.latQ ++ c.latI ++ c.latB) := by
  simp [statsOf, classStats, Nat.add_assoc]

/-- **empty cases**: a class in which nothing completed has count 0 and undefined (NaN) latency figures -/
theorem empty_class_undefined (arr : Nat) : classStats arr [] = { arrivals := arr, completions := 0, mean := none, p99 := none } := rfl

/-- a run in which nothing arrives and nothing finishes -/
theorem empty_run : statsOf (loopC []) =
    { created := 0, containersCompleted := 0, asg := 0, sus := 0, failures := 0, ctrP99 := none,
      all := ⟨0, 0, none, none⟩, query := ⟨0, 0, none, none⟩, interactive := ⟨0, 0, none, none⟩, batch := ⟨0, 0, none, none⟩ } := by
  decide

example : p99? [10, 20, 30, 40, 50] = some (4960, 100) ∧ mean? [1, 2, 6] = some (9, 3) := by decide

open Eudoxia Eudoxia.Sweep OpState

/-- the pipelines a bookkeeping state knows of.  The bookkeeping is consistent when this list has no duplicates: no pipeline is outstanding twice,
none is both outstanding and finished, none is finished twice. -/
def trackPids (tr : Track) : List Nat := tr.outstanding.map (·.1) ++ tr.finished.map (·.1)

theorem arrive_pids (tr : Track) (pid t : Nat) (ops : List Nat) : (trackPids (arrive tr pid t ops)).Perm (pid :: trackPids tr) := by
  simp only [trackPids, arrive, List.map_append, List.map_cons, List.map_nil, List.append_assoc, List.singleton_append]
  exact List.perm_middle

/-- **exactly once.**  The sweep keeps the bookkeeping consistent: whatever it records as finished leaves the outstanding set in the same step,
so no pipeline can ever be recorded twice. -/
theorem sweep_pids (s : Store) (t : Nat) (hasRes : Bool) (tr : Track) : (trackPids (sweep s t hasRes tr)).Perm (trackPids tr) := by
  unfold sweep
  split
  · exact .refl _
  · have hsplit := (List.filter_append_perm (fun p => allCompleted s p.2.2) tr.outstanding).map (·.1)
    simp only [trackPids, List.map_append, List.map_map] at hsplit ⊢
    -- kept ++ (finished ++ recorded)  ~  (finished ++ recorded) ++ kept  =  finished ++ (recorded ++ kept)  ~  finished ++ outstanding
    refine List.perm_append_comm.trans ?_
    rw [List.append_assoc]
    exact (hsplit.append_left _).trans List.perm_append_comm

/-- **in the tick its last operator completes.**  In a swept tick (one in which the executor reported a result) an outstanding pipeline is recorded as
finished if and only if all its operators are COMPLETED at that moment, with the latency `t − arrival tick`; otherwise it stays outstanding. -/
theorem sweep_records_exactly_the_complete_ones (s : Store) (t : Nat) (tr : Track) (p : Nat × Nat × List Nat) (hp : p ∈ tr.outstanding) :
    (allCompleted s p.2.2 = true → (p.1, t, t - p.2.1) ∈ (sweep s t true tr).finished ∧ p ∉ (sweep s t true tr).outstanding) ∧
    (allCompleted s p.2.2 = false → p ∈ (sweep s t true tr).outstanding) := by
  simp only [sweep, Bool.not_true, Bool.false_eq_true, ↓reduceIte]
  constructor
  · intro hc
    refine ⟨List.mem_append_right _ (List.mem_map.mpr ⟨p, List.mem_filter.mpr ⟨hp, hc⟩, rfl⟩), ?_⟩
    intro hx
    have := (List.mem_filter.mp hx).2
    simp [hc] at this
  · intro hc
    exact List.mem_filter.mpr ⟨hp, by simp [hc]⟩

theorem sweep_monotone (s : Store) (t : Nat) (hasRes : Bool) (tr : Track) : ∀ x ∈ tr.finished, x ∈ (sweep s t hasRes tr).finished := by
  intro x hx
  unfold sweep
  split
  · exact hx
  · exact List.mem_append_left _ hx

theorem allCompleted_iff {s : Store} {ops : List Nat} : allCompleted s ops = true ↔ ∀ o ∈ ops, s.stOf o = completed := by
  simp only [allCompleted, List.all_eq_true, beq_iff_eq]

theorem allCompleted_false_iff {s : Store} {ops : List Nat} : allCompleted s ops = false ↔ ∃ o ∈ ops, s.stOf o ≠ completed := by
  simp only [allCompleted, List.all_eq_false, beq_iff_eq]

/-- **not later.**  Completion is final (C02), so a pipeline all of whose operators are completed stays so through any further accepted transitions:
whenever a sweep next runs, it still finds the pipeline complete. -/
theorem complete_stays_complete {s s' : Store} (h : Steps s s') (ops : List Nat) (hc : allCompleted s ops = true) : allCompleted s' ops = true := by
  rw [allCompleted_iff] at hc ⊢
  exact fun o ho => completed_final h o (hc o ho)

/-- **an operator completes only inside a container, and the container that completes a pipeline's last operator reports success in that very tick.**  From a
ready world whose containers each hold operators of one pipeline only (as every shipped scheduler builds them; `World.OnePipe`, handed on by the tick), with
container numbers never re-used and every container's record straight: if after an executor tick — any pools, any admissible assignments and suspension
requests, kills and write-outs included — all operators of a pipeline are COMPLETED and one of them was not before the tick, then the tick returns a successful
result naming an operator of that pipeline.  So the tick has results, and the simulator's completion sweep, which looks only then, runs. -/
theorem completion_comes_with_a_success_result_in_the_same_tick (w0 w1 : World) (asgs : List Asg) (sus : List (Nat × Nat)) (hr : WorldReady w0)
    (hb : Built w0 asgs w1) (hseg : ∀ a ∈ asgs, ∀ r ∈ a.ops, w0.store.segsOf r ≠ []) (hpar : ∀ a ∈ asgs, ParentsOK w1.store a.ops)
    (hsus : ∀ i, ((sus.filter (·.1 == i)).map (·.2)).Nodup) (hf : w0.FinS) (hc : w0.CidsOK) (hpid : w0.PidOK) (h1 : w0.OnePipe)
    (ha1 : ∀ a ∈ asgs, InOne w0.pipes a.ops) {w2 : World} {res : List Res} (hx : w1.execTick sus asgs = .ok (w2, res)) :
    w2.OnePipe ∧ (∀ r ∈ res, InOne w0.pipes r.ops) ∧ ∀ pid, (∀ o ∈ (w0.pipes.getD pid default).order, w2.store.stOf o = completed) →
      (∃ o ∈ (w0.pipes.getD pid default).order, w1.store.stOf o ≠ completed) →
      ∃ r ∈ res, r.ok = true ∧ ∃ o ∈ r.ops, o ∈ (w0.pipes.getD pid default).order :=
  execTick_completion w0 w1 asgs sus hr hb hseg hpar hsus hf hc hpid h1 ha1 hx

/-- **counted in the tick in which its last operator completes.**  Under the same hypotheses: an outstanding pipeline whose operators are all COMPLETED after
the tick, one of them not before, is recorded as finished by the sweep of this very tick (`hasRes` is what the main loop computes: the tick returned a
result), with latency `t − arrival`, and leaves the outstanding set. -/
theorem pipeline_is_counted_in_the_tick_its_last_operator_completes (w0 w1 : World) (asgs : List Asg) (sus : List (Nat × Nat)) (hr : WorldReady w0)
    (hb : Built w0 asgs w1) (hseg : ∀ a ∈ asgs, ∀ r ∈ a.ops, w0.store.segsOf r ≠ []) (hpar : ∀ a ∈ asgs, ParentsOK w1.store a.ops)
    (hsus : ∀ i, ((sus.filter (·.1 == i)).map (·.2)).Nodup) (hf : w0.FinS) (hc : w0.CidsOK) (hpid : w0.PidOK) (h1 : w0.OnePipe)
    (ha1 : ∀ a ∈ asgs, InOne w0.pipes a.ops) {w2 : World} {res : List Res} (hx : w1.execTick sus asgs = .ok (w2, res))
    (t : Nat) (tr : Track) (pid arrival : Nat) (hp : (pid, arrival, (w0.pipes.getD pid default).order) ∈ tr.outstanding)
    (hall : allCompleted w2.store (w0.pipes.getD pid default).order = true) (hnew : allCompleted w1.store (w0.pipes.getD pid default).order = false) :
    (pid, t, t - arrival) ∈ (sweep w2.store t (!res.isEmpty) tr).finished ∧
    (pid, arrival, (w0.pipes.getD pid default).order) ∉ (sweep w2.store t (!res.isEmpty) tr).outstanding := by
  obtain ⟨r, hrr, _, _⟩ := (execTick_completion w0 w1 asgs sus hr hb hseg hpar hsus hf hc hpid h1 ha1 hx).2.2 pid
    (allCompleted_iff.mp hall) (allCompleted_false_iff.mp hnew)
  have hne : (!res.isEmpty) = true := by
    cases res with
    | nil => cases hrr
    | cons x xs => rfl
  rw [hne]
  exact (sweep_records_exactly_the_complete_ones w2.store t tr _ hp).1 hall

theorem arrivals_pids (t : Nat) (arr : List (Nat × List Nat)) (tr : Track) :
    (trackPids (arr.foldl (fun tr a => arrive tr a.1 t a.2) tr)).Perm (trackPids tr ++ arr.map (·.1)) := by
  induction arr generalizing tr with
  | nil => simp
  | cons a arr ih => exact (ih _).trans (((arrive_pids tr a.1 t a.2).append_right _).trans List.perm_middle.symm)

theorem arrivals_finished (t : Nat) (arr : List (Nat × List Nat)) (tr : Track) :
    (arr.foldl (fun tr a => arrive tr a.1 t a.2) tr).finished = tr.finished := by
  induction arr generalizing tr with
  | nil => rfl
  | cons a arr ih => exact ih _

def sweepStep (n : Nat) (acc : Track × Nat) (h : TickH) : Track × Nat :=
  (sweep (storeOf n h.completed) acc.2 h.hasRes (h.arr.foldl (fun tr a => arrive tr a.1 acc.2 a.2) acc.1), acc.2 + 1)

theorem runSweep_eq (n : Nat) (hist : List TickH) : runSweep n hist = (hist.foldl (sweepStep n) ({}, 0)).1 := rfl

theorem history_pids (n : Nat) (hist : List TickH) (acc : Track × Nat) :
    (trackPids (hist.foldl (sweepStep n) acc).1).Perm (trackPids acc.1 ++ hist.flatMap (fun h => h.arr.map (·.1))) := by
  induction hist generalizing acc with
  | nil => simp
  | cons h hist ih =>
    rw [List.foldl_cons, List.flatMap_cons, ← List.append_assoc]
    exact (ih _).trans (((sweep_pids ..).trans (arrivals_pids ..)).append_right _)

theorem history_finished (n : Nat) (hist : List TickH) (acc : Track × Nat) :
    ∀ x ∈ acc.1.finished, x ∈ (hist.foldl (sweepStep n) acc).1.finished := by
  induction hist generalizing acc with
  | nil => exact fun x hx => hx
  | cons h hist ih => exact fun x hx => ih _ x (sweep_monotone _ _ _ _ x (by rw [arrivals_finished]; exact hx))

/-- **counted as completed exactly once, over a whole run.**  For every history of ticks — any arrivals (each pipeline arriving once), any ticks with or
without results, any operators completed — the bookkeeping of the main loop never holds a pipeline twice: no pipeline is recorded as finished twice,
none is at once outstanding and finished.  (The per-tick theorems above say *which* pipelines a sweep records; this one lifts "at most once" from one sweep
to all of them.) -/
theorem no_pipeline_is_counted_twice_over_a_whole_run (n : Nat) (hist : List TickH)
    (harr : (hist.flatMap (fun h => h.arr.map (·.1))).Nodup) :
    ((runSweep n hist).finished.map (·.1)).Nodup ∧
    ∀ p ∈ (runSweep n hist).outstanding, p.1 ∉ (runSweep n hist).finished.map (·.1) := by
  have h := (history_pids n hist ({}, 0)).nodup_iff.mpr harr
  rw [← runSweep_eq, trackPids, List.nodup_append] at h
  exact ⟨h.2.1, fun p hp hm => h.2.2 p.1 (List.mem_map.mpr ⟨p, hp, rfl⟩) p.1 hm rfl⟩

/-- **a recorded completion is never revised**: what the bookkeeping has recorded after a prefix of the run (pipeline, finish tick, latency) is still
recorded, unchanged, after the whole run. -/
theorem recorded_completions_are_kept_over_a_whole_run (n : Nat) (hist more : List TickH)
    (harr : ((hist ++ more).flatMap (fun h => h.arr.map (·.1))).Nodup) :
    ∀ x ∈ (runSweep n hist).finished, x ∈ (runSweep n (hist ++ more)).finished := by
  rw [runSweep_eq, runSweep_eq, List.foldl_append]
  exact history_finished n more _

/-- non-vacuity: a three-tick history in which a pipeline arrives, completes and is counted once, while a second one stays outstanding -/
example : (runSweep 3 [{ arr := [(0, [0, 1]), (1, [2])] }, { hasRes := true, completed := [0] }, { hasRes := true, completed := [0, 1] },
    { hasRes := true, completed := [0, 1] }]).finished = [(0, 2, 2)] := by decide

/-- non-vacuity: a world without containers satisfies `World.OnePipe` -/
theorem fresh_world_onePipe (cfg : Cfg) (store : Store) (pipes : Array PipeInfo) (caps : List (Nat × Nat)) :
    World.OnePipe { cfg := cfg, store := store, pools := caps.map (fun c => Pool.fresh c.1 c.2), pipes := pipes } := by
  refine ⟨fun p hp c hc => ?_, fun p hp c hc => ?_⟩
  · obtain ⟨x, _, rfl⟩ := List.mem_map.mp hp
    simp [Pool.fresh] at hc
  · obtain ⟨x, _, rfl⟩ := List.mem_map.mp hp
    simp [Pool.fresh] at hc

/-- the hypotheses of the two theorems above hold at every tick of every run of `priority` with multi-operator containers (pre-emption included): they are
part of the loop invariant that `C08.priority_multi_operator_run_never_raises` re-establishes tick after tick -/
theorem priority_runs_meet_the_hypotheses (w : World) (st : Prio.St) (cs js : List Ctr) (F : List Nat) (inv : PM.PMInv w st cs js F) :
    WorldReady w ∧ w.FinS ∧ w.CidsOK ∧ w.PidOK ∧ w.OnePipe := by
  refine ⟨inv.ready, inv.fins, inv.cids, inv.pid, ⟨fun p hp c hc => ?_, inv.sne⟩⟩
  rcases List.mem_append.mp hc with h | h
  · obtain ⟨P, hP, _⟩ := (inv.goodA p hp c h).2
    exact ⟨P, hP⟩
  · obtain ⟨P, hP, _⟩ := (inv.goodS p hp c h).2
    exact ⟨P, hP⟩

/-- the hypothesis `ha1` of the two theorems above holds in every round of the naive scheduler (either container mode; the `eudoxia init` starter is the
single-operator mode): each container it builds holds operators of one pipeline.  `World.OnePipe` is then handed on from tick to tick by
`completion_comes_with_a_success_result_in_the_same_tick` itself. -/
theorem naive_builds_one_pipeline_containers (multi : Bool) (w w' : World) (st st' : Naive.St) (res : List Res) (newP : List Nat) (dec : Decision)
    (h : Naive.round multi w st res newP = .ok (w', st', dec)) : ∀ a ∈ dec.asgs, InOne w.pipes a.ops :=
  Naive.round_inOne multi w w' st st' res newP dec h

/-- likewise overbook: one operator per container, of a registered pipeline, as long as its queue holds registered operators only — which the round hands on -/
theorem overbook_builds_one_pipeline_containers (w w' : World) (st st' : Overbook.St) (res : List Res) (newP : List Nat) (dec : Decision)
    (h : Overbook.round w st res newP = .ok (w', st', dec)) (hq : ∀ r ∈ st.opq, Overbook.Reg w.pipes r) :
    (∀ a ∈ dec.asgs, InOne w.pipes a.ops) ∧ (∀ r ∈ st'.opq, Overbook.Reg w.pipes r) :=
  Overbook.round_inOne w w' st st' res newP dec h hq

/-- likewise priority-pool: if the waiting jobs and the results it is handed hold operators of one pipeline each, so do its assignments and the jobs it keeps -/
theorem priority_pool_builds_one_pipeline_containers (w w' : World) (st st' : Prio.St) (results : List Res) (newP : List Nat) (dec : Decision)
    (h : Prio.ppRound w st results newP = .ok (w', st', dec)) (hj : PP.JobsOne w.pipes st) (hr : ∀ r ∈ results, InOne w.pipes r.ops) :
    (∀ a ∈ dec.asgs, InOne w.pipes a.ops) ∧ PP.JobsOne w.pipes st' :=
  PP.ppRound_inOne w w' st st' results newP dec h hj hr

end Eudoxia.C06
