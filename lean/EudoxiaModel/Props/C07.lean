import EudoxiaModel.Model.Gen
import EudoxiaModel.Model.Sched.Priority
/-! # C07 — runs are reproducible and every policy is evaluated on the same workload  (PARTIAL)

What the model can carry is thin and true by construction: every component is a *function* of its inputs,
the generator's inputs contain no scheduler or executor setting, and the model has no identifier values
(operators, pipelines and containers are numbered by creation), so nothing can depend on them.  What a
theorem cannot exhibit — hash-seed dependent iteration order, process-global counters, registries — is
CPython runtime behaviour; the decisive part of this property is the paired-execution correspondence check. -/
namespace Eudoxia.C07
open Eudoxia Eudoxia.Gen

/-- the generated workload is a function of the workload parameters (pipelines per event, waiting ticks, which already
contains the tick rate) and the draw stream alone: `Gen.Params` has no scheduler or executor field, so two runs that
agree on these agree on every emitted pipeline, whatever the policy -/
theorem workload_independent_of_policy (P P' : Params) (n : Nat) (ds : List Draw)
    (h1 : P.numPipelines = P'.numPipelines) (h2 : P.waitMean = P'.waitMean) :
    run P n {} ds = run P' n {} ds := by
  cases P; cases P'; simp_all

/-- the generator is a function of parameters, tick count, its own state and the draw stream: the same four give the same
pipelines per tick and the same unread rest of the stream.  True of every Lean function; what it records is that the model
of the generator needed no further input (no clock, no process-wide counter) -/
theorem generator_is_deterministic (P : Params) (n : Nat) (s : State) (ds : List Draw) (r r' : Option (List (List PipeOut) × List Draw))
    (h : run P n s ds = r) (h' : run P n s ds = r') : r = r' := h.symm.trans h'

/-- a scheduling round is a function of (world, scheduler state, results, arrivals): no clock, no identifier value, no hash
order enters.  Stated for `Prio.prRound`; `Prio.ppRound`, `Naive.round` and `Overbook.round` take the same arguments
(the naive one also a configuration flag) -/
theorem rounds_are_functions (w : World) (st : Prio.St) (res : List Res) (newP : List Nat) :
    ∀ r r', Prio.prRound w st res newP = r → Prio.prRound w st res newP = r' → r = r' :=
  fun _ _ h h' => h.symm.trans h'

end Eudoxia.C07
