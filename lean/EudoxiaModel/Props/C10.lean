import EudoxiaModel.Proofs.Lift
import EudoxiaModel.Proofs.WorldDeadSusp
import EudoxiaModel.Proofs.FreshWorlds
/-! # C10 — suspension only between operators, lasts RAM/20 s, returns work intact -/
namespace Eudoxia.C10
open Eudoxia OpState Extracted

/-- **C10.1a — the boundary flag.**  `runAt` is one tick of the operator `r` with memory demand `m`, the step in which `Ctr.tick` ends; the statement holds for any `r`,
`last` and `m`, not only for those a tick would pass.  If the container had not ended and the step does not leave it frozen over its limit,
`can_suspend` holds afterwards exactly if the step completed an operator and did not end the container. -/
theorem can_suspend_iff_operator_boundary {w w' : Store} {c c' : Ctr} {cons cons' : Int} {r : Nat} {last : Bool} {m : Nat}
    (hc : c.completed = false) (h : runAt w c cons r last m = .ok (w', c', cons')) (hf : c'.frozen = false) :
    (c'.canSuspend = true ↔ (c'.curOpIdx = c.curOpIdx + 1 ∧ c'.completed = false)) := by
  rcases runAt_ok h with ⟨_, _, rfl, _⟩ | ⟨_, _, _, _, rfl, _⟩ | ⟨_, _, _, _, rfl, _⟩ | ⟨_, _, _, rfl, _⟩
  · cases hf
  · simp
  · simp [hc]
  · simp

/-- **C10.1b — a request at any other time, or for a container that is not running, is rejected.** -/
theorem suspend_request_validated (p : Pool) (l : List Nat) :
    verifySuspends p l = .ok () ↔ ∀ cid ∈ l, ∃ c, findCtr p.active cid = some c ∧ c.canSuspend = true :=
  verifySuspends_ok_iff

/-- **C10.2a — duration.**  The write-out takes ⌊ram/20 · tps⌋ = ⌊ram/g⌋ ticks, at least one. -/
theorem write_out_ticks (cfg : Cfg) (c : Ctr) : c.writeOutTicks cfg = max 1 (c.ram / cfg.g) ∧ 1 ≤ c.writeOutTicks cfg := by
  unfold Ctr.writeOutTicks; exact ⟨rfl, by omega⟩

def suspendTicks : Nat → Store → Ctr → Except Err (Store × Ctr)
  | 0, w, c => .ok (w, c)
  | k + 1, w, c => match c.suspendTick w with
    | .error e => .error e
    | .ok (w1, c1) => suspendTicks k w1 c1

/-- **C10.2b — the countdown.**  After `k` ticks of a suspending container the countdown stands at `suspLeft − k`; the container makes no progress meanwhile
(position, completed prefix and allocation are untouched).  `Ctr.suspend` starts the countdown at `writeOutTicks` and `suspendTick` hands the work back in
the tick that brings it to 0, so a write-out ends `writeOutTicks` ticks after it was accepted and not before. -/
theorem suspension_lasts_exactly (k : Nat) : ∀ (w w' : Store) (c c' : Ctr),
    suspendTicks k w c = .ok (w', c') →
    c'.suspLeft = c.suspLeft - (k : Int) ∧ key c' = key c ∧ c'.curOpIdx = c.curOpIdx ∧ c'.ops = c.ops ∧ c'.pos = c.pos ∧ c'.mem = c.mem := by
  induction k with
  | zero => intro w w' c c' h; simp [suspendTicks] at h; obtain ⟨_, rfl⟩ := h; simp
  | succ k ih =>
    intro w w' c c' h
    unfold suspendTicks at h
    split at h
    · cases h
    · rename_i w1 c1 h1
      have e := (suspendTick_ok h1).1
      obtain ⟨i1, i2, i3, i4, i5, i6⟩ := ih _ _ _ _ h
      rw [e] at i1 i2 i3 i4 i5 i6
      refine ⟨by simp only [] at i1; rw [i1]; push_cast; omega, i2, i3, i4, i5, i6⟩

theorem no_self_loops (t : OpState) : t ∉ validNext t := by cases t <;> decide

/-- **C10.3 — returns work intact.**  In the tick its write-out ends, the container's unfinished operators return to PENDING
(assignable again) and its finished ones stay COMPLETED. -/
theorem suspension_end_returns_work {w w' : Store} {c c' : Ctr} (hend : c.suspLeft - 1 = 0)
    (h : c.suspendTick w = .ok (w', c')) :
    (∀ o ∈ c.unfinished, w'.stOf o = pending ∧ pending ∈ assignable) ∧ (∀ o, w.stOf o = completed → w'.stOf o = completed) := by
  rcases (suspendTick_ok h).2 with ⟨_, hw⟩ | ⟨hne, _⟩
  · exact ⟨fun o ho => ⟨(transAll_stOf hw).1 o ho, by decide⟩, fun o ho => completed_final (suspendTick_steps h) o ho⟩
  · exact absurd hend hne

/-- while the write-out is still running nothing happens to operator states -/
theorem suspension_midway_unchanged {w w' : Store} {c c' : Ctr} (hmid : c.suspLeft - 1 ≠ 0)
    (h : c.suspendTick w = .ok (w', c')) : w' = w := by
  rcases (suspendTick_ok h).2 with ⟨hz, _⟩ | ⟨_, e⟩
  · exact absurd hz hmid
  · exact e

/-- a suspending container keeps its whole allocation until the end and then exactly its allocation is freed: this is the conservation
invariant of C03 (`PoolInv`) at every tick boundary — restated here for the suspension phase alone -/
theorem allocation_held_then_freed {w w' : Store} {p p' : Pool} {n : Nat} (inv : PoolInv p n) (h : suspTickAll w p = .ok (w', p')) :
    p'.availC + cpuSum p'.active + cpuSum p'.suspending = p'.capC ∧ p'.availR + ramSum p'.active + ramSum p'.suspending = p'.capR :=
  let ⟨i, _⟩ := suspTickAll_inv inv h; ⟨i.cpu, i.ram⟩

/-- so a container in the suspending or suspended list reports no result -/
theorem results_come_from_running_containers (p : Pool) : ∀ r ∈ (collect p).2, ∃ c ∈ p.active, c.completed = true ∧ r = mkRes c := by
  intro r hr
  simp only [collect] at hr
  obtain ⟨c, hc, rfl⟩ := List.mem_map.mp hr
  exact ⟨c, (List.mem_filter.mp hc).1, by simpa using (List.mem_filter.mp hc).2, rfl⟩

example : suspendTicks 3 {} { cid := 0, ops := [], cpu := 1, ram := 60, pos := { ops := [] }, suspLeft := 3 } =
    .ok ({}, { cid := 0, ops := [], cpu := 1, ram := 60, pos := { ops := [] }, suspLeft := 0 }) := by
  simp [suspendTicks, Ctr.suspendTick, Ctr.unfinished, Store.transAll]

/-- **C10 over a whole executor tick — the work comes back intact.**  In any world reached by ticks from one whose containers have their record straight
(`World.FinS`: e.g. a world without containers, and the property is handed on from tick to tick), after a tick with any admissible commands every container
that is in a suspended list is one that was there before, or one whose write-out ended in this tick — and of those, the operators it had got through are
COMPLETED and the *whole* rest is PENDING again, none of it touched by anything else that happened in the tick (other pools, OOM kills, new containers). -/
theorem write_out_end_returns_the_unfinished_operators (w0 w1 : World) (asgs : List Asg) (sus : List (Nat × Nat)) (hr : WorldReady w0) (hb : Built w0 asgs w1)
    (hseg : ∀ a ∈ asgs, ∀ r ∈ a.ops, w0.store.segsOf r ≠ []) (hpar : ∀ a ∈ asgs, ParentsOK w1.store a.ops)
    (hsus : ∀ i, ((sus.filter (·.1 == i)).map (·.2)).Nodup) (hf : w0.FinS)
    {w2 : World} {res : List Res} (hx : w1.execTick sus asgs = .ok (w2, res)) :
    w2.FinS ∧ ∀ p ∈ w2.pools, ∀ c ∈ p.suspended, (∃ q ∈ w1.pools, c ∈ q.suspended) ∨
      (c.completed = false ∧ (∀ o ∈ c.ops.take c.curOpIdx, w2.store.stOf o = completed) ∧ ∀ o ∈ c.unfinished, w2.store.stOf o = pending) := by
  obtain ⟨cs, js, T⟩ := execTick_finS hr hb hseg hpar hsus hf hx
  refine ⟨T.fin, fun p hp c hc => ?_⟩
  rcases T.old p hp c hc with h | h
  · exact Or.inl h
  · obtain ⟨x1, x2, x3, _⟩ := T.parked c h
    exact Or.inr ⟨x2, x1.pre, x3⟩

/-- **over whole runs of `priority` with multi-operator containers** (the shipped scheduler that suspends): on every tick of every run from a fresh world
with a well-formed workload, every container that is being written out still has work left (it was suspended between two operators, never after its last),
and every container whose write-out ended in the last tick is in a suspended list, not ended, with a non-empty unfinished suffix all of which is PENDING
again — the work comes back intact — and the scheduler remembers a job for it under its number (so it is offered again: C12) -/
theorem suspended_work_comes_back_intact_on_every_tick_of_every_priority_run (cfg : Cfg) (store : Store) (pipes : Array PipeInfo) (caps : List (Nat × Nat))
    (arrivals : List (List Nat)) (hm : cfg.multiOp = true) (ho : cfg.overcommit = false) (hq : 0 < cfg.q)
    (wf : (freshWorld cfg store pipes caps).WFP) (hs : (freshWorld cfg store pipes caps).SegsOK) (hp : (freshWorld cfg store pipes caps).PidOK)
    (ht : (freshWorld cfg store pipes caps).Topo) (hF : arrivals.flatten.Nodup)
    (hfut : ∀ pid ∈ arrivals.flatten, (pipes.getD pid default).order ≠ [] ∧ ∀ o ∈ (pipes.getD pid default).order, store.stOf o = pending) :
    ∃ (w' : World) (st' : Prio.St) (cs' js' : List Ctr), Prio.loop (freshWorld cfg store pipes caps) {} [] arrivals = .ok (w', st', cs'.map mkRes) ∧
      (∀ p ∈ w'.pools, ∀ c ∈ p.suspending, c.unfinished ≠ []) ∧
      (∀ c ∈ js', c.completed = false ∧ c.unfinished ≠ [] ∧ (∀ o ∈ c.unfinished, w'.store.stOf o = pending) ∧ (∃ p ∈ w'.pools, c ∈ p.suspended) ∧
        c.cid ∈ st'.susp.map (·.1)) := by
  obtain ⟨w', st', cs', js', h, inv⟩ := PM.fresh_run cfg store pipes caps arrivals hm ho hq wf hs hp ht hF hfut
  refine ⟨w', st', cs', js', h, inv.sne, fun c hc => ?_⟩
  obtain ⟨_, a2, a3, _, a5, a6⟩ := inv.park c hc
  exact ⟨a2, a5, a3, a6, inv.has c hc⟩

end Eudoxia.C10
