import EudoxiaModel.Model.Sched.Priority
import EudoxiaModel.Proofs.WorldInv
import EudoxiaModel.Proofs.CtrKept
import EudoxiaModel.Proofs.NaiveMulti
import EudoxiaModel.Proofs.PrioBudget
import EudoxiaModel.Proofs.WorldLive
import EudoxiaModel.Proofs.PoolLoop
import EudoxiaModel.Proofs.PoolExample
import EudoxiaModel.Proofs.FreshWorlds
/-! # C16 — priority-pool keeps batch work and latency-sensitive work on separate pools -/
namespace Eudoxia.C16
open Eudoxia Eudoxia.Prio OpState Extracted

theorem check_err {s : Store} {r : Nat} {t : OpState} {e : Err} (h : s.check r t = .error e) : e = .badTransition ∨ e = .deps := by
  unfold Store.check at h
  rcases C08.of_ite_eq h with ⟨_, h⟩ | ⟨_, h⟩
  · cases h; exact .inl rfl
  rcases C08.of_ite_eq h with ⟨_, h⟩ | ⟨_, h⟩
  · cases h; exact .inl rfl
  rcases C08.of_ite_eq h with ⟨_, h⟩ | ⟨_, h⟩
  · cases h; exact .inr rfl
  · cases h

theorem assignOps_err {l : List Nat} {s s' : Store} {e : Err} (h : assignOps s l = .error (e, s')) : e = .badTransition ∨ e = .deps := by
  induction l generalizing s with
  | nil => cases h
  | cons r rs ih =>
    rcases assignOps_cons_err.mp h with ⟨ht, _⟩ | ⟨_, _, hr⟩
    · unfold Store.transition at ht
      split at ht
      · cases ht; exact check_err ‹_›
      · cases ht
    · exact ih hr

theorem mkAssignment_err_code {w w' : World} {a : Asg} {e : Err} (h : w.mkAssignment a = .error (e, w')) :
    e = .emptyAssign ∨ e = .nonPos ∨ e = .badTransition ∨ e = .deps := by
  unfold World.mkAssignment at h
  rcases C08.of_ite_eq h with ⟨_, h⟩ | ⟨_, h⟩
  · cases h; exact .inl rfl
  rcases C08.of_ite_eq h with ⟨_, h⟩ | ⟨_, h⟩
  · cases h; exact .inr (.inl rfl)
  rcases C08.of_ite_eq h with ⟨_, h⟩ | ⟨_, h⟩
  · cases h; exact .inr (.inl rfl)
  cases hs : assignOps w.store a.ops with
  | error es => rw [hs] at h; cases h; exact .inr (.inr (assignOps_err hs))
  | ok s => rw [hs] at h; cases h

/-- building an Assignment never trips the *scheduler's* own assertion -/
theorem mkA_not_schedAssert {w : World} {ops : List Nat} {cpu ram prio pool : Nat} {w' : World}
    (h : mkA w ops cpu ram prio pool = .error (.schedAssert, w')) : False := by
  unfold mkA at h
  split at h
  · cases h
    rcases mkAssignment_err_code ‹_› with e | e | e | e <;> cases e
  · cases h

theorem ppQueue_spec {q pool : Nat} {jobs : List Job} {w w' : World} {sn sn' : List Snap} {m : Nat} {out : List Asg}
    (h : ppQueue q pool w jobs sn 0 [] = .ok (w', sn', m, out)) :
    ∀ a ∈ out, a.pool = pool ∧ ∃ j ∈ jobs, a.ops = j.ops ∧ a.prio = j.prio := by
  rw [ppQueue_eq] at h
  exact fun a ha => let ⟨ep, j, hj, ej⟩ := PP.ppRun_asgs (gQueue_qrun h) a ha; ⟨ep, j, List.mem_of_mem_take hj, ej⟩

/-- an abandoned retry (doubled request reaching half of the pool) is never given a size -/
theorem ppSize_retry {q : Nat} {s : Snap} {j : Job} {rs : Retry} (hrs : j.retry = some rs) (herr : rs.hasErr = true) (hne : ppSize q s j ≠ none) :
    2 * (2 * rs.oldCpu) < s.totC ∧ 2 * (2 * rs.oldRam) < s.totR := by
  unfold ppSize at hne
  simp only [hrs, herr, ↓reduceIte] at hne
  split at hne
  · exact absurd rfl hne
  · rename_i hcut
    simpa only [Bool.or_eq_true, decide_eq_true_eq, not_or, Nat.not_le] using hcut

def ClassOK (st : St) : Prop :=
  (∀ j ∈ st.qry, j.prio = prioQuery) ∧ (∀ j ∈ st.inter, j.prio = prioInteractive) ∧
  (∀ j ∈ st.batch, j.prio ≠ prioQuery ∧ j.prio ≠ prioInteractive)

theorem push_classOK (st : St) (j : Job) (h : ClassOK st) : ClassOK (st.push j j.prio) := by
  obtain ⟨h1, h2, h3⟩ := h
  have add : ∀ {P : Job → Prop} {l : List Job}, (∀ x ∈ l, P x) → P j → ∀ x ∈ l ++ [j], P x :=
    fun hl hj x hx => (List.mem_append.mp hx).elim (hl x) fun e => List.mem_singleton.mp e ▸ hj
  unfold St.push
  by_cases hq : j.prio = prioQuery
  · rw [if_pos (beq_iff_eq.mpr hq)]
    exact ⟨add h1 hq, h2, h3⟩
  rw [if_neg (mt beq_iff_eq.mp hq)]
  by_cases hi : j.prio = prioInteractive
  · rw [if_pos (beq_iff_eq.mpr hi)]
    exact ⟨h1, add h2 hi, h3⟩
  · rw [if_neg (mt beq_iff_eq.mp hi)]
    exact ⟨h1, h2, add h3 ⟨hq, hi⟩⟩

theorem ppEnqueue_classOK (w : World) (st st1 : St) (res : List Res) (newP : List Nat) (h : ClassOK st)
    (henq : ppEnqueue w st res newP = .ok st1) : ClassOK st1 := by
  rw [PP.ppEnqueue_def] at henq
  refine foldlM_inv (fun _ s => ClassOK s) (foldl_inv (fun _ s => ClassOK s) h fun _ _ _ s _ hs => push_classOK s _ hs)
    (fun _ x _ s s' _ hs e => ?_) henq
  unfold PP.failStep at e
  split at e
  · cases e
  · cases e
    exact push_classOK s { prio := x.prio, pid := _, ops := nonCompleted w x.ops, retry := some (retryOf x) } hs

/-- **C16 per round.**  Given queues that hold only jobs of their class, a round of priority-pool (a) never suspends; (b) puts every
container of query and interactive work on pool 0 and every container of other (batch) work on pool 1 — first attempts and retries alike.
(That an OOM retry gets a size only while its doubled request stays below half of the pool is `ppSize_retry`.) -/
theorem classes_on_separate_pools (w w' : World) (st st1 st' : St) (res : List Res) (newP : List Nat) (dec : Decision)
    (henq : ppEnqueue w st res newP = .ok st1) (hclass0 : ClassOK st)
    (h : ppRound w st res newP = .ok (w', st', dec)) :
    dec.sus = [] ∧ ∀ a ∈ dec.asgs, (a.prio = prioQuery ∨ a.prio = prioInteractive → a.pool = 0) ∧
      (a.prio ≠ prioQuery ∧ a.prio ≠ prioInteractive → a.pool = 1) := by
  have hclass := ppEnqueue_classOK w st st1 res newP hclass0 henq
  obtain ⟨st0, _, _, _, _, _, _, _, _, _, _, _, henq', h1, h2, h3, _, rfl⟩ := C08.ppRound_ok h
  obtain rfl : st1 = st0 := Except.ok.inj (henq.symm.trans henq')
  have s1 := ppQueue_spec h1
  have s2 := ppQueue_spec h2
  have s3 := ppQueue_spec h3
  refine ⟨rfl, fun a ha => ?_⟩
  rcases List.mem_append.mp ha with ha | ha
  · rcases List.mem_append.mp ha with ha | ha
    · obtain ⟨ep, j, hj, _, ej⟩ := s1 a ha
      exact ⟨fun _ => ep, fun hn => absurd (ej.trans (hclass.1 j hj)) hn.1⟩
    · obtain ⟨ep, j, hj, _, ej⟩ := s2 a ha
      exact ⟨fun _ => ep, fun hn => absurd (ej.trans (hclass.2.1 j hj)) hn.2⟩
  · obtain ⟨ep, j, hj, _, ej⟩ := s3 a ha
    have := hclass.2.2 j hj
    exact ⟨fun hp => hp.elim (fun e => absurd (ej ▸ e) this.1) fun e => absurd (ej ▸ e) this.2, fun _ => ep⟩

theorem classOK_init : ClassOK {} := by simp [ClassOK]

theorem ppRound_classOK (w w' : World) (st st' : St) (res : List Res) (newP : List Nat) (dec : Decision)
    (hc : ClassOK st) (h : ppRound w st res newP = .ok (w', st', dec)) : ClassOK st' := by
  obtain ⟨st0, _, _, _, _, _, _, _, _, _, _, _, henq, _, _, _, rfl, _⟩ := C08.ppRound_ok h
  have hclass := ppEnqueue_classOK w st st0 res newP hc henq
  exact ⟨fun j hj => hclass.1 j (List.mem_of_mem_drop hj), fun j hj => hclass.2.1 j (List.mem_of_mem_drop hj),
    fun j hj => hclass.2.2 j (List.mem_of_mem_drop hj)⟩

/-- after a failure only the unfinished operators of the failed container are queued, together, as one job with the container's priority -/
theorem retry_job_is_unfinished_operators (w : World) (st : St) (f : Res) (o : Nat) (os : List Nat) (h : nonCompleted w f.ops = o :: os) :
    ppEnqueue w st [f] [] = (if f.ok then .ok st else
      .ok (st.push { prio := f.prio, pid := w.store.pidOf o, ops := o :: os, retry := some (retryOf f) } f.prio)) := by
  unfold ppEnqueue
  cases hf : f.ok <;> simp [hf, h, List.foldlM] <;> rfl

/-- **one container of fresh size keeps what the scheduler's own assertion checks ("free RAM is zero iff free CPU is zero")**: from a snapshot where
free CPU and free RAM are both positive, a container sized by `newSize` takes either strictly less than both or all of both -/
theorem newSize_keeps_both_or_none (q : Nat) (s : Snap) (h0 : 0 < s.availC) (h1 : 0 < s.availR) :
    let sz := newSize q s
    ((s.availC - (sz.1 : Int) = 0 ∧ s.availR - (sz.2 : Int) = 0) ∨ (0 < s.availC - (sz.1 : Int) ∧ 0 < s.availR - (sz.2 : Int))) := by
  have := C08.newSize_cases q s h0 h1
  dsimp only
  omega

/-- a container sits where its class belongs: query / interactive work on pool 0, everything else (batch) on pool 1.  (`c.pool` is the `pool_id` of the
assignment the container was made from, which is also the pool the executor routes it to.) -/
def Placed (c : Ctr) : Prop :=
  (c.prio = prioQuery ∨ c.prio = prioInteractive → c.pool = 0) ∧ (c.prio ≠ prioQuery ∧ c.prio ≠ prioInteractive → c.pool = 1)

theorem placed_kept (cfg : Cfg) : Kept cfg Placed :=
  .of_ident fun h hc => by unfold Placed; rw [h.prio, h.pool]; exact hc

structure SepInv (w : World) (st : St) (res : List Res) : Prop where
  cls : ClassOK st
  nosusp : w.NoSusp
  ctrs : ∀ p ∈ w.pools, AllC Placed p.active
  rs : ∀ r ∈ res, ∃ c, Placed c ∧ r = mkRes c

theorem tick_keeps_classes_apart (w : World) (st : St) (res : List Res) (newP : List Nat) (w1 : World) (st1 : St) (dec : Decision) (w2 : World) (res2 : List Res)
    (inv : SepInv w st res) (hr : ppRound w st res newP = .ok (w1, st1, dec)) (hx : w1.execTick dec.sus dec.asgs = .ok (w2, res2)) : SepInv w2 st1 res2 := by
  obtain ⟨s, _, _, _, _, _, _, _, _, _, _, _, hs, _⟩ := C08.ppRound_ok hr
  obtain ⟨hsus, hplace⟩ := classes_on_separate_pools w w1 st s st1 res newP dec hs inv.cls hr
  have hpools : w1.pools = w.pools := (built_frame (C08.ppRound_built hr)).1
  rw [hsus] at hx
  obtain ⟨o1, o2⟩ := execTick_kept (placed_kept w1.cfg) (fun a ha _ _ => hplace a ha) (fun p hp => inv.ctrs p (hpools ▸ hp)) hx
  exact ⟨ppRound_classOK w w1 st st1 res newP dec inv.cls hr, execTick_nosusp (fun p hp => inv.nosusp p (hpools ▸ hp)) hx, o1, o2⟩

/-- **C16 over whole runs.**  Starting from a world in which every container sits where its class belongs (e.g. one without containers), every run of the
priority-pool scheduler and the executor that reaches its end reaches it in such a world again — and so does every prefix of the run: at no tick boundary is
there a batch container on pool 0, or a query / interactive container on pool 1, or a write-out in progress; retries included. -/
theorem classes_stay_apart_over_whole_runs : ∀ (arrivals : List (List Nat)) (w : World) (st : St) (res : List Res) (w' : World) (st' : St) (res' : List Res),
    SepInv w st res → PP.loop w st res arrivals = .ok (w', st', res') → SepInv w' st' res' := by
  intro arrivals
  induction arrivals with
  | nil => intro w st res w' st' res' inv h; simp only [PP.loop, Except.ok.injEq, Prod.mk.injEq] at h; obtain ⟨rfl, rfl, rfl⟩ := h; exact inv
  | cons newP rest ih =>
    intro w st res w' st' res' inv h
    unfold PP.loop at h
    split at h
    · cases h
    · rename_i w1 st1 dec hr
      split at h
      · cases h
      · rename_i w2 res2 hx
        exact ih w2 st1 res2 w' st' res' (tick_keeps_classes_apart w st res newP w1 st1 dec w2 res2 inv hr hx) h

theorem fresh_world_separated (cfg : Cfg) (store : Store) (pipes : Array PipeInfo) (caps : List (Nat × Nat)) :
    SepInv (freshWorld cfg store pipes caps) {} [] := by
  refine ⟨classOK_init, ?_, ?_, by simp⟩
  · intro p hp
    obtain ⟨c, _, rfl⟩ := List.mem_map.mp hp
    rfl
  · intro p hp c hc
    obtain ⟨x, _, rfl⟩ := List.mem_map.mp hp
    simp [Pool.fresh] at hc

/-- **C16 over whole runs, unconditionally (multi-operator containers).**  From a world that satisfies the closed-loop invariant `PP.PPInv` (Proofs/PoolLoop.lean)
and in which every container sits where its class belongs, the run of priority-pool and the executor *does* reach its end — it never raises — and ends with the
classes still apart.  (With single-operator containers the shipped scheduler raises on its first multi-operator pipeline: known finding D11.) -/
theorem run_completes_with_classes_apart (arrivals : List (List Nat)) (w : World) (st : St) (cs : List Ctr)
    (inv : PP.PPInv w st cs arrivals.flatten) (sep : SepInv w st (cs.map mkRes)) :
    ∃ w' st' res', PP.loop w st (cs.map mkRes) arrivals = .ok (w', st', res') ∧ SepInv w' st' res' := by
  obtain ⟨w', st', cs', h, _⟩ := PP.run_never_raises arrivals w st cs inv
  exact ⟨w', st', cs'.map mkRes, h, classes_stay_apart_over_whole_runs arrivals w st _ w' st' _ sep h⟩

/-- non-vacuity: the diamond-DAG world with two pools meets both hypotheses -/
theorem run_completes_in_a_concrete_world (n : Nat) :
    ∃ w' st' res', PP.loop (NaiveExample.world true) {} [] ([0] :: List.replicate n []) = .ok (w', st', res') ∧ SepInv w' st' res' := by
  -- `[].map mkRes` is `[]` by computation
  exact run_completes_with_classes_apart ([0] :: List.replicate n []) (NaiveExample.world true) {} []
    (by rw [PoolExample.flatten_arrivals]; exact PoolExample.inv) (fresh_world_separated _ _ _ _)

/-- **from every fresh world**: whatever the configuration (multi-operator containers), the two pools (each with some CPU and RAM) and the registered workload
of well-formed pipelines, and whatever the arrival batches, the run of priority-pool and the executor reaches its last tick with batch work only ever on pool 1
and query / interactive work only ever on pool 0 -/
theorem classes_stay_apart_from_every_fresh_world (cfg : Cfg) (store : Store) (pipes : Array PipeInfo) (c0 c1 : Nat × Nat) (arrivals : List (List Nat))
    (hm : cfg.multiOp = true) (hq : 0 < cfg.q) (h0 : 0 < c0.1 ∧ 0 < c0.2) (h1 : 0 < c1.1 ∧ 0 < c1.2)
    (wf : (freshWorld cfg store pipes [c0, c1]).WFP) (hs : (freshWorld cfg store pipes [c0, c1]).SegsOK) (hp : (freshWorld cfg store pipes [c0, c1]).PidOK)
    (ht : (freshWorld cfg store pipes [c0, c1]).Topo) (hF : arrivals.flatten.Nodup)
    (hfut : ∀ pid ∈ arrivals.flatten, (pipes.getD pid default).order ≠ [] ∧ ∀ o ∈ (pipes.getD pid default).order, store.stOf o = pending) :
    ∃ w' st' res', PP.loop (freshWorld cfg store pipes [c0, c1]) {} [] arrivals = .ok (w', st', res') ∧ SepInv w' st' res' := by
  exact run_completes_with_classes_apart arrivals (freshWorld cfg store pipes [c0, c1]) {} []
    (PP.fresh_inv cfg store pipes c0 c1 _ hm hq h0 h1 wf hs hp ht hF hfut) (fresh_world_separated _ _ _ _)

end Eudoxia.C16
