import EudoxiaModel.Model.Gen
/-! # C15 — the workload generator emits well-formed pipelines that follow its parameters

The generator is a function of the recorded draw stream; theorems hold for every stream.
Distributional clauses (averages, class frequencies) are about numpy and are sampled, not proved. -/
namespace Eudoxia.C15
open Eudoxia Eudoxia.Gen Extracted

/-- the prototype table read from the source is the documented one, ordered from I/O-heavy to CPU-heavy -/
theorem prototype_table_documented :
    protoTable = [
      ⟨none, some ⟨-1, 1⟩, ⟨1, 1⟩, .const, ⟨55, 1⟩⟩,
      ⟨some ⟨-1, 1⟩, some ⟨-1, 2⟩, ⟨2, 1⟩, .sqrt, ⟨55, 1⟩⟩,
      ⟨some ⟨-1, 2⟩, some ⟨0, 1⟩, ⟨5, 1⟩, .linear3, ⟨45, 1⟩⟩,
      ⟨some ⟨0, 1⟩, some ⟨1, 2⟩, ⟨15, 1⟩, .linear3, ⟨75, 2⟩⟩,
      ⟨some ⟨1, 2⟩, some ⟨1, 1⟩, ⟨20, 1⟩, .linear7, ⟨30, 1⟩⟩,
      ⟨some ⟨1, 1⟩, some ⟨3, 2⟩, ⟨40, 1⟩, .linear7, ⟨20, 1⟩⟩,
      ⟨some ⟨3, 2⟩, none, ⟨80, 1⟩, .squared, ⟨10, 1⟩⟩] ∧
    queryProto = ⟨none, none, ⟨15, 1⟩, .linear3, ⟨35, 1⟩⟩ ∧ notHeavyClamp = ⟨-1, 1⟩ := by
  refine ⟨rfl, rfl, rfl⟩

/-- the first operator of a chain is the most I/O-heavy prototype: `genChain` looks up the value −2, which lies below every threshold -/
theorem first_prototype_is_io_heavy : protoIdxChain protoTable ⟨-2, 1⟩ = some 0 := by decide +kernel

theorem laterOps_length : ∀ (n : Nat) (ds : List Draw) (is : List Nat) (r : List Draw), laterOps n ds = some (is, r) → is.length = n
  | 0, _, _, _, h => by cases h; rfl
  | _+1, [], _, _, h => by cases h
  | _+1, .choice _ :: _, _, _, h => by cases h
  | n+1, .normal v :: ds, is, r, h => by
    unfold laterOps at h
    split at h
    · rename_i hl; cases h; rw [List.length_cons, laterOps_length n _ _ _ hl]
    · cases h

theorem genChain_some {counter prio : Nat} {ds : List Draw} {p : PipeOut} {rest : List Draw} (h : genChain counter prio ds = some (p, rest)) :
    ∃ v ds' later, ds = Draw.normal v :: ds' ∧ laterOps (opCount v - 1) ds' = some (later, rest) ∧
      p = { id := counter + 1, prio := prio, protos := 0 :: later } := by
  unfold genChain at h
  rw [first_prototype_is_io_heavy] at h
  split at h
  · split at h
    · rename_i hf hl; cases h; cases hf; exact ⟨_, _, _, rfl, hl, rfl⟩
    · cases h
  · cases h

theorem genPipeline_some {counter : Nat} {ds : List Draw} {p : PipeOut} {rest : List Draw} (h : genPipeline counter ds = some (p, rest)) :
    ∃ k ds0, ds = Draw.choice k :: ds0 ∧ p.id = counter + 1 ∧ p.prio = prioOfChoice k ∧
      (prioOfChoice k = prioQuery ∧ p.protos = [queryIdx] ∨
        prioOfChoice k ≠ prioQuery ∧ genChain counter (prioOfChoice k) ds0 = some (p, rest)) := by
  unfold genPipeline at h
  split at h
  · refine ⟨_, _, rfl, ?_⟩
    simp only [beq_iff_eq] at h
    split at h
    · rename_i hq; cases h; exact ⟨rfl, rfl, .inl ⟨hq, rfl⟩⟩
    · rename_i hq; obtain ⟨_, _, _, _, _, rfl⟩ := genChain_some h; exact ⟨rfl, rfl, .inr ⟨hq, h⟩⟩
  · cases h

/-- an arrival event delivers exactly `n` pipelines with consecutive fresh ids -/
theorem exactly_n_pipelines_fresh_ids : ∀ (n counter : Nat) (ds : List Draw) (ps : List PipeOut) (rest : List Draw),
    genPipelines n counter ds = some (ps, rest) → ps.map (·.id) = (List.range n).map (fun i => counter + 1 + i) := by
  intro n
  induction n with
  | zero => intro c ds ps rest h; cases h; rfl
  | succ n ih =>
    intro c ds ps rest h
    unfold genPipelines at h
    split at h
    · cases h
    · rename_i p ds' hp
      split at h
      · cases h
      · rename_i ps' rest' hps
        cases h
        obtain ⟨_, _, _, hid, _⟩ := genPipeline_some hp
        rw [List.map_cons, hid, ih _ _ _ _ hps, List.range_succ_eq_map, List.map_cons, List.map_map]
        refine congrArg _ (List.map_congr_left fun a _ => ?_)
        simp only [Function.comp_apply]; omega

/-- a query pipeline has exactly one operator (the query prototype); any other pipeline is a chain of
`max 1 ⌊draw⌋` operators whose first is the I/O-heavy prototype -/
theorem pipeline_shape (counter : Nat) (ds : List Draw) (p : PipeOut) (rest : List Draw)
    (h : genPipeline counter ds = some (p, rest)) :
    (p.prio = prioQuery → p.protos = [queryIdx]) ∧
    (p.prio ≠ prioQuery → ∃ k v ds', ds = Draw.choice k :: Draw.normal v :: ds' ∧
        p.protos.length = max 1 (opCount v) ∧ p.protos.head? = some 0 ∧ 1 ≤ p.protos.length) := by
  obtain ⟨k, ds0, rfl, _, hprio, ⟨hq, hp⟩ | ⟨hq, hc⟩⟩ := genPipeline_some h
  · exact ⟨fun _ => hp, fun hne => absurd (hprio.trans hq) hne⟩
  · obtain ⟨v, ds', later, rfl, hl, rfl⟩ := genChain_some hc
    have hlen : (0 :: later).length = max 1 (opCount v) := by
      have : 1 ≤ opCount v := by unfold opCount; split <;> omega
      rw [List.length_cons, laterOps_length _ _ _ _ hl]; omega
    exact ⟨fun hp => absurd (hprio.symm.trans hp) hq, fun _ => ⟨k, v, ds', rfl, hlen, rfl, Nat.succ_pos _⟩⟩

/-- gap between events: `⌊draw⌋`, or the mean when that is not positive -/
theorem gap_is_floor_or_mean (P : Params) (v : Q) :
    nextWait P v = (if Q.trunc v ≤ 0 then P.waitMean else (Q.trunc v).toNat) := rfl

/-- no event before the waiting time has passed: a tick in which the counter has not reached the wait emits nothing, reads no
draw and only advances the counter -/
theorem no_event_while_waiting (P : Params) (s : State) (ds : List Draw) (h : s.sinceLast ≠ s.curWait) :
    tick P s ds = some ({ s with sinceLast := s.sinceLast + 1 }, [], ds) := by
  unfold tick; simp [h]

def Contiguous : Option Q → List Proto → Prop
  | hi, [] => hi = none
  | hi, q :: ps => (∃ h, hi = some h ∧ q.lo = some h) ∧ Contiguous q.hi ps

theorem go_cons (v : Q) (i : Nat) (p : Proto) (ps : List Proto) :
    protoIdxChain.go v i (p :: ps) =
      if p.lo.all (Q.le · v) && p.hi.all (!Q.le · v) then some i else protoIdxChain.go v (i + 1) ps := by
  have hlt : ∀ h, Q.lt v h = !Q.le h v := fun h => by simp only [Q.lt, Q.le, ← Int.not_le, decide_not]
  cases hl : p.lo <;> cases hh : p.hi <;> simp only [protoIdxChain.go, hl, hh, hlt, Option.all_none, Option.all_some]

theorem qle_trans {a b c : Q} (hb : 0 < b.den) (h1 : Q.le a b = true) (h2 : Q.le b c = true) : Q.le a c = true := by
  simp only [Q.le, decide_eq_true_eq] at *
  -- multiply the goal by `b.den > 0`; the two hypotheses, scaled by `c.den` and `a.den`, then chain
  refine Int.le_of_mul_le_mul_right ?_ (Int.natCast_pos.mpr hb)
  calc a.num * c.den * b.den = a.num * b.den * c.den := Int.mul_right_comm ..
    _ ≤ b.num * a.den * c.den := Int.mul_le_mul_of_nonneg_right h1 (Int.natCast_nonneg _)
    _ = b.num * c.den * a.den := Int.mul_right_comm ..
    _ ≤ c.num * b.den * a.den := Int.mul_le_mul_of_nonneg_right h2 (Int.natCast_nonneg _)
    _ = c.num * a.den * b.den := Int.mul_right_comm ..

/-- the if-chain stops at the first threshold that fails; thresholds increase, so all later ones fail too -/
theorem go_eq_count (v : Q) : ∀ (ps : List Proto) (p : Proto) (i : Nat),
    p.lo.all (Q.le · v) = true → Contiguous p.hi ps → (thresholds ps).Pairwise (fun a b => Q.le a b = true ∧ 0 < b.den) →
    protoIdxChain.go v i (p :: ps) = some (i + protoIdxCount ps v) := by
  intro ps
  induction ps with
  | nil =>
    intro p i hlo hc _
    have hhi : p.hi = none := hc
    rw [go_cons, hlo, hhi]; rfl
  | cons q ps ih =>
    intro p i hlo ⟨⟨h, hhi, hq⟩, hc⟩ hs
    have hth : thresholds (q :: ps) = h :: thresholds ps := by simp [thresholds, hq]
    rw [hth, List.pairwise_cons] at hs
    rw [go_cons, hlo, hhi, protoIdxCount, hth, List.filter_cons, Option.all_some]
    cases hv : Q.le h v
    · have : (thresholds ps).filter (fun l => Q.le l v) = [] :=
        List.filter_eq_nil_iff.mpr fun b hb hbv => by simpa [hv] using qle_trans (hs.1 b hb).2 (hs.1 b hb).1 hbv
      rw [this]; rfl
    · rw [show (true && !true) = false from rfl, if_neg Bool.false_ne_true, if_pos rfl,
        ih q (i + 1) (by rw [hq]; exact hv) hc hs.2, protoIdxCount, List.length_cons, Nat.add_right_comm, Nat.add_assoc]

theorem chain_eq_count (v : Q) (p : Proto) (ps : List Proto) (hlo : p.lo = none) (hc : Contiguous p.hi ps)
    (hs : (thresholds ps).Pairwise (fun a b => Q.le a b = true ∧ 0 < b.den)) :
    protoIdxChain (p :: ps) v = some (protoIdxCount (p :: ps) v) := by
  have : thresholds (p :: ps) = thresholds ps := by simp [thresholds, hlo]
  rw [protoIdxChain, go_eq_count v ps p 0 (by rw [hlo]; rfl) hc hs, Nat.zero_add, protoIdxCount, protoIdxCount, this]

/-- on its whole domain the if-chain equals "number of thresholds at or below the value" -/
theorem chain_is_threshold_count (n : Int) (d : Nat) (hd : 0 < d) :
    protoIdxChain protoTable ⟨n, d⟩ = some (protoIdxCount protoTable ⟨n, d⟩) :=
  chain_eq_count ⟨n, d⟩ _ _ rfl (by simp [Contiguous]) (by decide +kernel)

theorem protoIdxCount_mono (tbl : List Proto) (n1 n2 : Int) (d : Nat) (h : n1 ≤ n2) :
    protoIdxCount tbl ⟨n1, d⟩ ≤ protoIdxCount tbl ⟨n2, d⟩ := by
  unfold protoIdxCount
  rw [← List.countP_eq_length_filter, ← List.countP_eq_length_filter]
  refine List.countP_mono_left fun l _ hl => ?_
  simp only [Q.le, decide_eq_true_eq] at hl ⊢
  exact Int.le_trans hl (Int.mul_le_mul_of_nonneg_right h (Int.natCast_nonneg _))

/-- **coupling form of "raising cpu_io_ratio shifts the mix towards CPU-heavy"**: for the same underlying
normal draw, a larger centre gives a prototype at least as CPU-heavy (values over a common denominator) -/
theorem prototype_index_monotone (n1 n2 : Int) (d : Nat) (hd : 0 < d) (h : n1 ≤ n2) :
    protoIdxCount protoTable ⟨n1, d⟩ ≤ protoIdxCount protoTable ⟨n2, d⟩ :=
  protoIdxCount_mono protoTable n1 n2 d h

/-- the operator count is monotone in its draw -/
theorem op_count_monotone (n1 n2 : Int) (d : Nat) (hd : 0 < d) (h : n1 ≤ n2) : opCount ⟨n1, d⟩ ≤ opCount ⟨n2, d⟩ := by
  have hd' : (0 : Int) < d := by exact_mod_cast hd
  have hm : Int.tdiv n1 d ≤ Int.tdiv n2 d := Int.tdiv_le_tdiv hd' h
  unfold opCount Q.trunc
  simp only
  split <;> split <;> omega

example : genPipeline 4 [Draw.choice 2, Draw.normal ⟨7, 2⟩, Draw.normal ⟨3, 10⟩, Draw.normal ⟨-5, 1⟩] =
    some ({ id := 5, prio := 3, protos := [0, 3, 1] }, []) := by decide +kernel

end Eudoxia.C15
