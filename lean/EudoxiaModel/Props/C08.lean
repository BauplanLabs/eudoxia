import EudoxiaModel.Props.C12
import EudoxiaModel.Proofs.NaiveExample
import EudoxiaModel.Proofs.PriorityExample
import EudoxiaModel.Proofs.PrioMultiExample
/-! # C08 — shipped schedulers decide admissibly, and the closed loop of scheduler and executor runs to the end without raising

`partial`.  Proved for every world and queue state: one round of `priority` / `priority-pool` asks each pool for no more CPU and RAM than the pool has free
(so `verify_valid_assignment` accepts the round), every assignment was built by the checked `Assignment` constructor (operators PENDING/FAILED with
parents satisfied, each assigned once), `priority` names only suspendable containers; the executor raises only at its gates.  Proved over whole runs
(scheduler and executor in closed loop, any number of ticks, any arrivals): naive in both container modes, overbook (`C18`), and `priority` with
single-operator containers, `priority` with multi-operator containers (where it pre-empts: suspension requests, write-outs, re-queued suspended work), and
`priority-pool` with multi-operator containers — every shipped scheduler in every container mode but one.  For `priority-pool` with single-operator containers the statement is false for the shipped code (known finding D11).
`partial` remains because the theorems start from a world in which the pipelines are already registered (workload generation, parameter validation and the
end-of-run statistics are tied to the code by the correspondence check, not proved) and because amounts are integers of the quantum lattice. -/
namespace Eudoxia.C08
open Eudoxia Eudoxia.Prio OpState Extracted

/-- **priority never oversells**: whatever the queues hold, the assignments of one round pass the executor's capacity check on every pool,
provided no pool's free CPU/RAM is negative when the round starts (true in every reachable world: `reach_good`). -/
theorem priority_round_not_oversold (w w' : World) (st st' : St) (res : List Res) (newP : List Nat) (dec : Decision)
    (h : prRound w st res newP = .ok (w', st', dec)) (hnn : ∀ p ∈ w.pools, 0 ≤ p.availC ∧ 0 ≤ p.availR)
    (p : Nat) (hp : p < w.pools.length) : verifyAssignments w.cfg (w.pools.getD p default) (dec.asgs.filter (·.pool == p)) = .ok () := by
  obtain ⟨w1, w2, sn1, sn2, sn3, k1, k2, k3, a1, a2, a3, q1, q2, q3, hd, _⟩ := prRound_ok h
  obtain ⟨n1, _, _, rfl, b1⟩ := prQueue_budget q1 (nonNegS_snaps hnn)
  obtain ⟨n2, _, _, rfl, b2⟩ := prQueue_budget q2 n1
  obtain ⟨n3, _, _, rfl, b3⟩ := prQueue_budget q3 n2
  rw [hd]
  exact accepted_of_budget w _ _ (budget_trans (budget_trans b1 b2) b3) n3 p hp

/-- **priority-pool never oversells**: the same for a round of `priority-pool`, whose three queue runs draw on one budget as well -/
theorem priority_pool_round_not_oversold (w w' : World) (st st' : St) (res : List Res) (newP : List Nat) (dec : Decision)
    (h : ppRound w st res newP = .ok (w', st', dec)) (hnn : ∀ p ∈ w.pools, 0 ≤ p.availC ∧ 0 ≤ p.availR)
    (p : Nat) (hp : p < w.pools.length) : verifyAssignments w.cfg (w.pools.getD p default) (dec.asgs.filter (·.pool == p)) = .ok () := by
  obtain ⟨stq, w1, sn1, k1, a1, w2, sn2, k2, a2, sn3, k3, a3, _, q1, q2, q3, _, rfl⟩ := ppRound_ok h
  obtain ⟨n1, _, _, rfl, b1⟩ := ppQueue_budget q1 (nonNegS_snaps hnn)
  obtain ⟨n2, _, _, rfl, b2⟩ := ppQueue_budget q2 n1
  obtain ⟨n3, _, _, rfl, b3⟩ := ppQueue_budget q3 n2
  exact accepted_of_budget w _ _ (budget_trans (budget_trans b1 b2) b3) n3 p hp

/-! `Built w as w'` (Proofs/Built.lean): the constructions `Assignment(...)` for `as`, made one after the other from `w`, were all accepted and lead to `w'`. -/

/-- **admissible by construction.**  Along a chain of accepted constructions no operator occurs twice (neither inside one assignment nor in two),
every operator was PENDING or FAILED when the chain started and is ASSIGNED when it ends, and every container asks for positive CPU and RAM. -/
theorem built_chain_spec {w w' : World} {as : List Asg} (h : Built w as w') :
    (as.flatMap (·.ops)).Nodup ∧ (∀ a ∈ as, a.ops ≠ [] ∧ 0 < a.cpu ∧ 0 < a.ram) ∧
    (∀ o ∈ as.flatMap (·.ops), w.store.stOf o ∈ assignable ∧ w'.store.stOf o = assigned) ∧
    (∀ o, o ∉ as.flatMap (·.ops) → w'.store.stOf o = w.store.stOf o) := built_spec h

/-- **priority: a round's assignments are a chain of accepted constructions from the world the round started in** (hence `built_spec`) -/
theorem priority_round_built (w w' : World) (st st' : St) (res : List Res) (newP : List Nat) (dec : Decision)
    (h : prRound w st res newP = .ok (w', st', dec)) : Built w dec.asgs w' := prRound_built h

theorem priority_pool_round_built (w w' : World) (st st' : St) (res : List Res) (newP : List Nat) (dec : Decision)
    (h : ppRound w st res newP = .ok (w', st', dec)) : Built w dec.asgs w' := ppRound_built h

/-- **priority suspends only what the executor accepts** -/
theorem priority_round_suspensions_accepted (w w' : World) (st st' : St) (res : List Res) (newP : List Nat) (dec : Decision)
    (h : prRound w st res newP = .ok (w', st', dec)) (p : Nat)
    (hnd : ((w.pools.getD p default).active.map (·.cid)).Nodup) :
    verifySuspends (w.pools.getD p default) ((dec.sus.filter (·.1 == p)).map (·.2)) = .ok () := by
  apply verifySuspends_ok _ hnd
  intro cid hcid
  obtain ⟨x, hx, rfl⟩ := List.mem_map.mp hcid
  obtain ⟨hx1, hx2⟩ := List.mem_filter.mp hx
  have hp : x.1 = p := by simpa using hx2
  obtain ⟨c, hc, e1, _, e3⟩ := (C12.round_preemption w w' st st' res newP dec h).2.2 x hx1
  rw [hp] at hc
  exact ⟨c, hc, e1, e3⟩

/-! ### execution never gets stuck

The executor-side assertions that could fire in the middle of a tick are the refused state changes (`transition`) and the exhausted tick
generator.  For *consistent* containers — operators in the states their position implies (head RUNNING once started, the rest ASSIGNED),
every parent COMPLETED or earlier in the same container, something left to run — none of them can fire.  Consistency is kept by every phase. -/

/-- **`Container.tick` never raises on a consistent container**, and the container stays consistent until it is finished -/
theorem container_tick_never_raises (cfg : Cfg) (w : Store) (c : Ctr) (cons : Int) (rd : CtrReady cfg w c) (hfc : c.completed = false → c.frozen = false) :
    ∃ w' c' cons', c.tick cfg w cons = .ok (w', c', cons') ∧ (c'.completed = false → CtrReady cfg w' c') :=
  tick_succeeds cons rd hfc

/-- killing (OOM) never raises: ASSIGNED → FAILED and RUNNING → FAILED are arrows of the table -/
theorem container_kill_never_raises (cfg : Cfg) (w : Store) (c : Ctr) (cons : Int) (rd : CtrReady cfg w c) : ∃ w' c' cons', c.kill w cons = .ok (w', c', cons') :=
  kill_succeeds cons rd

/-- suspending at an operator boundary never raises -/
theorem container_suspend_never_raises (cfg : Cfg) (w : Store) (c : Ctr) (rd : CtrReady cfg w c) (hb : headRunning c = false) : ∃ w' c', c.suspend cfg w = .ok (w', c') :=
  suspend_succeeds rd hb

/-- **phases 3–6 of a pool tick (write-outs, container ticks, both steps of the OOM killer, collection) never raise on a consistent pool**,
and leave it consistent: by induction, no later tick raises there either as long as the commands it is given pass the gate checks -/
theorem pool_run_never_raises {cfg : Cfg} {w : Store} {p : Pool} {n : Nat} (pinv : PoolInv p n) (m : MemOK p) (rd : PoolReady cfg w p) :
    ∃ w' p' res, poolRun cfg w p = .ok (w', p', res) ∧ PoolReady cfg w' p' :=
  poolRun_succeeds pinv m rd

/-- **a pool tick raises only at its gates.**  On a ready pool, with assignments built by the checked constructor in dependency order and distinct
suspension requests, `ResourcePool.run_one_tick` either succeeds and leaves the pool ready for the next tick, or refuses its commands up front with
one of the gate errors (no such / unsuspendable container, oversold CPU or RAM, wrong operator count), in a well-defined state.
It never fails in the middle of a tick.  (`PoolReadyF`, `AsgsReady`: Proofs/Progress.lean.) -/
theorem pool_tick_raises_only_at_the_gates {cfg : Cfg} {w : Store} {p : Pool} {n : Nat} {cm : Cmds}
    (g : PoolGoodMem cfg p n) (rd : PoolReadyF cfg w p) (ha : AsgsReady w cm.asgs) (hs : cm.susp.Nodup)
    (hnd : (ownP p ++ cm.asgs.flatMap (·.ops)).Nodup) :
    (∃ w' p' n' res, poolTick cfg w p n cm = .ok (w', p', n', res) ∧ PoolReadyF cfg w' p') ∨
    (∃ e st, poolTick cfg w p n cm = .error (e, some st) ∧ e.isGate = true) :=
  poolTick_raises_only_at_the_gates g rd ha hs hnd

/-- **`Executor.run_one_tick` raises only at its gates.**  From a ready world, after any chain of accepted `Assignment` constructions whose operator lists are
in dependency order and have segments, and with suspension requests naming each container at most once, the executor tick either succeeds and leaves a
ready world, or refuses the commands up front (unknown pool; unknown or unsuspendable container; oversold CPU or RAM; wrong operator count) in a well-defined
state.  Nothing fails in the middle of a tick.  (`WorldReady`, `ParentsOK`: Proofs/WorldLive.lean, Proofs/Progress.lean.) -/
theorem executor_tick_raises_only_at_the_gates (w0 w1 : World) (asgs : List Asg) (sus : List (Nat × Nat))
    (hr : WorldReady w0) (hb : Built w0 asgs w1) (hseg : ∀ a ∈ asgs, ∀ r ∈ a.ops, w0.store.segsOf r ≠ [])
    (hpar : ∀ a ∈ asgs, ParentsOK w1.store a.ops) (hsus : ∀ i, ((sus.filter (·.1 == i)).map (·.2)).Nodup) :
    (∃ w2 res, w1.execTick sus asgs = .ok (w2, res) ∧ WorldReady w2) ∨
    (∃ e st, w1.execTick sus asgs = .error (e, some st) ∧ (e.isGate = true ∨ e = .unknownPool)) :=
  execTick_raises_only_at_the_gates w0 w1 asgs sus hr hb hseg hpar hsus

/-- **if the gates let the commands through, the tick succeeds** and the world is ready for the next one -/
theorem executor_tick_succeeds_when_the_gates_pass (w0 w1 : World) (asgs : List Asg)
    (hr : WorldReady w0) (hb : Built w0 asgs w1) (hseg : ∀ a ∈ asgs, ∀ r ∈ a.ops, w0.store.segsOf r ≠ [])
    (hpar : ∀ a ∈ asgs, ParentsOK w1.store a.ops) (hpool : ∀ a ∈ asgs, a.pool < w1.pools.length)
    (hv : ∀ k p, w1.pools[k]? = some p → (asgs.filter (·.pool == k)).isEmpty = true ∨ verifyAssignments w1.cfg p (asgs.filter (·.pool == k)) = .ok ())
    (hcnt : ∀ a ∈ asgs, opCountOk w1.cfg a = true) :
    ∃ w2 res, w1.execTick [] asgs = .ok (w2, res) ∧ WorldReady w2 :=
  let ⟨w2, res, h, r, _⟩ := execTick_succeeds_of_gates w0 w1 asgs hr hb hseg hpar hpool hv hcnt; ⟨w2, res, h, r⟩

/-- **the tick with suspension requests succeeds when the gates pass**: pools that exist, per pool requests that `verify_valid_suspend` accepts and a batch that `verify_valid_assignment`
accepts with the right operator count ⇒ the tick succeeds and the world is ready for the next one -/
theorem executor_tick_with_suspensions_succeeds_when_the_gates_pass (w0 w1 : World) (asgs : List Asg) (sus : List (Nat × Nat))
    (hr : WorldReady w0) (hb : Built w0 asgs w1) (hseg : ∀ a ∈ asgs, ∀ r ∈ a.ops, w0.store.segsOf r ≠ [])
    (hpar : ∀ a ∈ asgs, ParentsOK w1.store a.ops) (hsus : ∀ i, ((sus.filter (·.1 == i)).map (·.2)).Nodup)
    (hpoolA : ∀ a ∈ asgs, a.pool < w1.pools.length) (hpoolS : ∀ x ∈ sus, x.1 < w1.pools.length)
    (hv : ∀ k p, w1.pools[k]? = some p →
      ((cmdsFor k sus asgs).susp.isEmpty = true ∨ verifySuspends p (cmdsFor k sus asgs).susp = .ok ()) ∧
      ((cmdsFor k sus asgs).asgs.isEmpty = true ∨ verifyAssignments w1.cfg p (cmdsFor k sus asgs).asgs = .ok ()))
    (hcnt : ∀ a ∈ asgs, opCountOk w1.cfg a = true) :
    ∃ w2 res, w1.execTick sus asgs = .ok (w2, res) ∧ WorldReady w2 :=
  let ⟨w2, res, h, r, _⟩ := execTick_succeeds_of_gates_susp w0 w1 asgs sus hr hb hseg hpar hsus hpoolA hpoolS hv hcnt; ⟨w2, res, h, r⟩

/-- **the whole run, for one shipped policy.**  The naive scheduler with single-operator containers — which is also the starter scheduler written by
`eudoxia init` — drives the simulation to its last tick without raising: from a ready world (e.g. a fresh one, `fresh_world_ready`) whose pipelines list
existing operators once and give each a segment, for every sequence of arrival batches. -/
theorem naive_single_operator_run_never_raises (arrivals : List (List Nat)) (w : World) (st : Naive.St) (res : List Res)
    (hr : WorldReady w) (wf : w.WFP) (hs : w.SegsOK) (hm : w.cfg.multiOp = false) : ∃ out, Naive.loop w st res arrivals = .ok out :=
  Naive.run_never_raises arrivals w st res hr wf hs hm

/-- **the whole run, default configuration of the naive scheduler.**  With multi-operator containers the naive scheduler drives the simulation to its last
tick without raising: from a ready world without write-outs whose pipelines are well-formed DAGs listed in topological order (`NaiveInv`: operators exist, are
listed once, have a segment, belong to the pipeline that lists them, come after their parents; the counts are the histogram; a pipeline with an operator in a container has no operator waiting), for every sequence of arrival
batches.  The last of these (`quiet`) is what rounds and ticks hand on to make the next batch admissible. -/
theorem naive_multi_operator_run_never_raises (arrivals : List (List Nat)) (w : World) (st : Naive.St) (res : List Res)
    (hr : WorldReady w) (inv : NaiveInv w) (hns : w.NoSusp) (hm : w.cfg.multiOp = true) : ∃ out, Naive.loopM true w st res arrivals = .ok out :=
  Naive.run_multi_never_raises arrivals w st res hr inv hns hm

/-- the hypotheses of both whole-run theorems are met by a concrete world (a diamond DAG a → {b, c} → d on two pools, nothing started): non-vacuity -/
theorem whole_run_theorems_apply_to_a_concrete_world (arrivals : List (List Nat)) :
    (∃ out, Naive.loop (NaiveExample.world false) {} [] arrivals = .ok out) ∧ (∃ out, Naive.loopM true (NaiveExample.world true) {} [] arrivals = .ok out) :=
  NaiveExample.runs arrivals

/-- **the whole run, `priority` with single-operator containers.**  From a world that satisfies `Prio.PRInv` (ready pools without write-outs, well-formed
pipelines, no memory overcommit, positive RAM quantum; queues holding distinct ready operators, one per job, with positive retry figures; every container and
every pending result for one operator with a positive allocation) the priority scheduler and the executor run to the last tick without raising, for every
sequence of arrival batches in which the pipelines arriving together are distinct.  With one operator per container nothing is ever suspendable, so the
proof also shows that the pre-emption machinery stays idle in this mode.  (Multi-operator mode, where `priority` does suspend:
`priority_multi_operator_run_never_raises` below.) -/
theorem priority_single_operator_run_never_raises (arrivals : List (List Nat)) (w : World) (st : Prio.St) (res : List Res)
    (hn : ∀ newP ∈ arrivals, newP.Nodup) (inv : Prio.PRInv w st res) :
    ∃ w' st' res', Prio.loop w st res arrivals = .ok (w', st', res') ∧ Prio.PRInv w' st' res' :=
  Prio.run_single_never_raises arrivals w st res hn inv

/-- **one round of `priority` with single-operator containers never raises**: it suspends nothing, every assignment goes through the checked constructor,
is for one ready operator on an existing pool, the executor's capacity check accepts the batch of every pool, and the queues it leaves hold distinct ready
operators again -/
theorem priority_single_operator_round_never_raises (w : World) (st : Prio.St) (results : List Res) (newP : List Nat) (hm : w.cfg.multiOp = false) (hq : 0 < w.cfg.q)
    (wf : w.WFP) (hs : w.SegsOK) (hpid : w.PidOK) (hj : Prio.JobsOK w st.jobs) (hsu : st.susp = []) (hns : w.NoSusp) (hnd : newP.Nodup)
    (hres : ∀ r ∈ results, 0 < r.cpu ∧ 0 < r.ram) (hnn : ∀ p ∈ w.pools, 0 ≤ p.availC ∧ 0 ≤ p.availR)
    (hcs : ∀ p ∈ w.pools, ∀ c ∈ p.active, c.canSuspend = false) :
    ∃ w' st' asgs, prRound w st results newP = .ok (w', st', { sus := [], asgs := asgs }) ∧ Built w asgs w' ∧ Prio.JobsOK w' st'.jobs ∧ st'.susp = [] ∧
      (∀ a ∈ asgs, a.pool < w.pools.length ∧ ∃ o, a.ops = [o] ∧ Prio.OpOK w o) ∧
      (∀ p, p < w.pools.length → verifyAssignments w.cfg (w.pools.getD p default) (asgs.filter (·.pool == p)) = .ok ()) :=
  Prio.prRound_single w st results newP hm hq wf hs hpid hj hsu hns hnd hres hnn hcs

/-- the hypotheses of the priority whole-run theorem are met by a concrete world (the diamond DAG on two pools, single-operator containers): non-vacuity -/
theorem priority_theorem_applies_to_a_concrete_world (arrivals : List (List Nat)) (h : ∀ newP ∈ arrivals, newP.Nodup) :
    ∃ out, Prio.loop (NaiveExample.world false) {} [] arrivals = .ok out :=
  PriorityExample.runs arrivals h

/-- **the whole run, `priority-pool` with multi-operator containers.**  From a world that satisfies `PP.PPInv` (two ready pools without write-outs whose free CPU
is zero exactly when their free RAM is; well-formed pipelines listed in dependency order; queues holding distinct good jobs; every container and every pending
result with its record straight) the priority-pool scheduler and the executor run to the last tick without raising — neither the executor, nor the `Assignment`
constructor, nor the scheduler's own two assertions ("failed container has incomplete operators", "free RAM is zero iff free CPU is zero") — for every sequence
of arrival batches in which no pipeline arrives twice.  The proof carries, through every phase of the executor tick, what a *failed* result says about the
operator table: the unfinished suffix of its container is not empty and all FAILED (Proofs/Dead.lean).  With single-operator containers the statement is false
for the shipped code (known finding D11). -/
theorem priority_pool_multi_operator_run_never_raises (arrivals : List (List Nat)) (w : World) (st : Prio.St) (cs : List Ctr)
    (inv : PP.PPInv w st cs arrivals.flatten) :
    ∃ w' st' cs', PP.loop w st (cs.map mkRes) arrivals = .ok (w', st', cs'.map mkRes) ∧ PP.PPInv w' st' cs' [] :=
  PP.run_never_raises arrivals w st cs inv

/-- the hypotheses of the priority-pool whole-run theorem are met by a concrete world (the diamond DAG on two pools, its pipeline arriving in the first tick) -/
theorem priority_pool_theorem_applies_to_a_concrete_world (n : Nat) :
    ∃ out, PP.loop (NaiveExample.world true) {} [] ([0] :: List.replicate n []) = .ok out :=
  PoolExample.runs n

/-- **the whole run, `priority` with multi-operator containers — the mode in which it pre-empts.**  From a world that satisfies `PM.PMInv` (ready pools; container
numbers never re-used; no memory overcommit; well-formed pipelines listed in dependency order; queues holding distinct good jobs, each *all* the unfinished work
of its pipeline; every running container, every container being written out and every pending result with its record straight; one remembered job per container
being written out, none for a container whose write-out ended earlier) the priority scheduler and the executor run to the last tick without raising, for every
sequence of arrival batches in which no pipeline arrives twice.  Along the way: every suspension request names a running container that may be suspended, no
container is named twice (`verify_valid_suspend` accepts), the job remembered for a suspended container is exactly its unfinished suffix with its old allocation,
it is re-queued exactly once — in the round after its write-out ended — and never while any of its operators is still SUSPENDING (so the `Assignment`
constructor accepts the resume), and no pool is oversold. -/
theorem priority_multi_operator_run_never_raises (arrivals : List (List Nat)) (w : World) (st : Prio.St) (cs js : List Ctr)
    (inv : PM.PMInv w st cs js arrivals.flatten) :
    ∃ w' st' cs' js', Prio.loop w st (cs.map mkRes) arrivals = .ok (w', st', cs'.map mkRes) ∧ PM.PMInv w' st' cs' js' [] :=
  PM.run_never_raises arrivals w st cs js inv

/-- one step of it: a scheduling round of `priority` (multi-operator containers) and the executor tick that follows succeed and re-establish the invariant -/
theorem priority_multi_operator_tick_never_raises (w : World) (st : Prio.St) (cs js : List Ctr) (newP F : List Nat) (inv : PM.PMInv w st cs js (newP ++ F)) :
    ∃ w1 st1 dec w2 cs2 js2, prRound w st (cs.map mkRes) newP = .ok (w1, st1, dec) ∧ w1.execTick dec.sus dec.asgs = .ok (w2, cs2.map mkRes) ∧
      PM.PMInv w2 st1 cs2 js2 F :=
  PM.pm_tick_never_raises w st cs js newP F inv

/-- the hypotheses of that theorem are met by a concrete world (the diamond DAG on two pools, its pipeline arriving in the first tick) -/
theorem priority_multi_theorem_applies_to_a_concrete_world (n : Nat) :
    ∃ out, Prio.loop (NaiveExample.world true) {} [] ([0] :: List.replicate n []) = .ok out :=
  PrioMultiExample.runs n

/-! ### from every fresh world: any configuration, any pools, any registered workload of well-formed pipelines, any arrivals

`freshWorld cfg store pipes caps` is a world in which nothing has been started: the pools `caps` are empty, the pipelines `pipes` are registered in the operator
table `store`.  "Well-formed" is: each pipeline lists existing operators once (`WFP`), each operator has a segment (`SegsOK`) and knows its pipeline (`PidOK`),
the listing is topological (`Topo`); the pipelines that will arrive (`arrivals.flatten`) arrive once, are non-empty and untouched.  Under these
hypotheses (each theorem names the ones it needs) `priority`, `priority-pool`, `overbook` and the naive scheduler with single-operator containers run to the
last tick.  For the naive scheduler with multi-operator containers the theorem takes `NaiveInv` of the fresh world, whose fields `quiet` and `cnt` are not
among the decidable checks of `checked_hypotheses_are_the_theorems_hypotheses`. -/

theorem priority_multi_operator_runs_from_every_fresh_world (cfg : Cfg) (store : Store) (pipes : Array PipeInfo) (caps : List (Nat × Nat))
    (arrivals : List (List Nat)) (hm : cfg.multiOp = true) (ho : cfg.overcommit = false) (hq : 0 < cfg.q)
    (wf : (freshWorld cfg store pipes caps).WFP) (hs : (freshWorld cfg store pipes caps).SegsOK) (hp : (freshWorld cfg store pipes caps).PidOK)
    (ht : (freshWorld cfg store pipes caps).Topo) (hF : arrivals.flatten.Nodup)
    (hfut : ∀ pid ∈ arrivals.flatten, (pipes.getD pid default).order ≠ [] ∧ ∀ o ∈ (pipes.getD pid default).order, store.stOf o = pending) :
    ∃ out, Prio.loop (freshWorld cfg store pipes caps) {} [] arrivals = .ok out :=
  let ⟨_, _, _, _, h, _⟩ := PM.fresh_run cfg store pipes caps arrivals hm ho hq wf hs hp ht hF hfut; ⟨_, h⟩

theorem priority_pool_multi_operator_runs_from_every_fresh_world (cfg : Cfg) (store : Store) (pipes : Array PipeInfo) (c0 c1 : Nat × Nat)
    (arrivals : List (List Nat)) (hm : cfg.multiOp = true) (hq : 0 < cfg.q) (h0 : 0 < c0.1 ∧ 0 < c0.2) (h1 : 0 < c1.1 ∧ 0 < c1.2)
    (wf : (freshWorld cfg store pipes [c0, c1]).WFP) (hs : (freshWorld cfg store pipes [c0, c1]).SegsOK) (hp : (freshWorld cfg store pipes [c0, c1]).PidOK)
    (ht : (freshWorld cfg store pipes [c0, c1]).Topo) (hF : arrivals.flatten.Nodup)
    (hfut : ∀ pid ∈ arrivals.flatten, (pipes.getD pid default).order ≠ [] ∧ ∀ o ∈ (pipes.getD pid default).order, store.stOf o = pending) :
    ∃ out, PP.loop (freshWorld cfg store pipes [c0, c1]) {} [] arrivals = .ok out :=
  let ⟨_, _, _, h, _⟩ := PP.fresh_run cfg store pipes c0 c1 arrivals hm hq h0 h1 wf hs hp ht hF hfut; ⟨_, h⟩

theorem priority_single_operator_runs_from_every_fresh_world (cfg : Cfg) (store : Store) (pipes : Array PipeInfo) (caps : List (Nat × Nat))
    (arrivals : List (List Nat)) (hm : cfg.multiOp = false) (ho : cfg.overcommit = false) (hq : 0 < cfg.q)
    (wf : (freshWorld cfg store pipes caps).WFP) (hs : (freshWorld cfg store pipes caps).SegsOK) (hp : (freshWorld cfg store pipes caps).PidOK)
    (hn : ∀ newP ∈ arrivals, newP.Nodup) :
    ∃ out, Prio.loop (freshWorld cfg store pipes caps) {} [] arrivals = .ok out :=
  let ⟨_, _, _, h, _⟩ := Prio.fresh_run_single cfg store pipes caps arrivals hm ho hq wf hs hp hn; ⟨_, h⟩

/-- overbook (memory overcommit on), either container mode; `C18.overbook_runs_from_every_fresh_world` has the same hypotheses and says in addition what the run
ends with -/
theorem overbook_runs_from_every_fresh_world (cfg : Cfg) (store : Store) (pipes : Array PipeInfo) (caps : List (Nat × Nat))
    (arrivals : List (List Nat)) (ho : cfg.overcommit = true) (hc : ∀ c ∈ caps, 0 < c.2)
    (wf : (freshWorld cfg store pipes caps).WFP) (hs : (freshWorld cfg store pipes caps).SegsOK) :
    ∃ out, Overbook.loop (freshWorld cfg store pipes caps) {} [] arrivals = .ok out :=
  let ⟨_, _, _, h, _⟩ := Overbook.fresh_run cfg store pipes caps arrivals ho hc wf hs; ⟨_, h⟩

/-- naive with single-operator containers — also the starter scheduler written by `eudoxia init` -/
theorem naive_single_operator_runs_from_every_fresh_world (cfg : Cfg) (store : Store) (pipes : Array PipeInfo) (caps : List (Nat × Nat))
    (arrivals : List (List Nat)) (hm : cfg.multiOp = false)
    (wf : (freshWorld cfg store pipes caps).WFP) (hs : (freshWorld cfg store pipes caps).SegsOK) :
    ∃ out, Naive.loop (freshWorld cfg store pipes caps) {} [] arrivals = .ok out :=
  Naive.run_never_raises arrivals _ {} [] (fresh_world_ready _ _ _ _) wf hs hm

/-- naive with multi-operator containers (the default configuration) -/
theorem naive_multi_operator_runs_from_every_fresh_world (cfg : Cfg) (store : Store) (pipes : Array PipeInfo) (caps : List (Nat × Nat))
    (arrivals : List (List Nat)) (hm : cfg.multiOp = true) (inv : NaiveInv (freshWorld cfg store pipes caps)) :
    ∃ out, Naive.loopM true (freshWorld cfg store pipes caps) {} [] arrivals = .ok out :=
  Naive.run_multi_never_raises arrivals _ {} [] (fresh_world_ready _ _ _ _) inv (fun _ hp => (fresh_pools_empty hp).2.1) hm

/-- **the hypotheses about the workload are decidable, and are evaluated on every workload the correspondence check runs** (driver command `hyp`): if the five
Boolean checks of `Model/Hyp.lean` pass on a world, the world's registered pipelines are well-formed in the sense of the theorems above and the pipelines `F`
are distinct, non-empty and untouched -/
theorem checked_hypotheses_are_the_theorems_hypotheses (w : World) (F : List Nat)
    (h : (w.wfpB && w.segsB && w.pidB && w.topoB && w.futureB F) = true) :
    w.WFP ∧ w.SegsOK ∧ w.PidOK ∧ w.Topo ∧ F.Nodup ∧
      ∀ pid ∈ F, (w.pipes.getD pid default).order ≠ [] ∧ ∀ o ∈ (w.pipes.getD pid default).order, w.store.stOf o = pending := by
  simp only [Bool.and_eq_true] at h
  obtain ⟨⟨⟨⟨h1, h2⟩, h3⟩, h4⟩, h5⟩ := h
  obtain ⟨f1, f2⟩ := futureB_sound w F h5
  exact ⟨wfpB_sound w h1, segsB_sound w h2, pidB_sound w h3, topoB_sound w h4, f1, f2⟩

/-- a fresh pool is ready (non-vacuity of the hypotheses above) -/
theorem fresh_pool_ready (cfg : Cfg) (w : Store) (cpus ram : Nat) : PoolReadyF cfg w (Pool.fresh cpus ram) :=
  ⟨⟨⟨by simp [Pool.fresh], by simp [Pool.fresh], by simp [ownP, own, Pool.fresh], by intro c hc; simp [Pool.fresh] at hc⟩,
    by intro c hc; simp [Pool.fresh] at hc, by intro c hc; simp [Pool.fresh] at hc⟩, by intro c hc; simp [Pool.fresh] at hc⟩

/-- **the naive scheduler and the `eudoxia init` starter never raise**: in any world whose pipelines list existing operators without repetition,
a round returns a decision, whatever the queue, the results and the arrivals are -/
theorem naive_round_never_raises (multi : Bool) (w : World) (st : Naive.St) (results : List Res) (newP : List Nat) (wf : w.WFP) :
    ∃ w' st' dec, Naive.round multi w st results newP = .ok (w', st', dec) ∧ w'.WFP :=
  Naive.round_never_raises multi w st results newP wf

end Eudoxia.C08
