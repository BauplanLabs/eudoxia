import EudoxiaModel.Proofs.NaiveLoop
/-! # C17 — naive scheduler: whole-pool FIFO without retries or preemption
    (`Naive.round multi`; the starter scheduler written by `eudoxia init` is `Naive.round false`) -/
namespace Eudoxia.C17
open Eudoxia Eudoxia.Naive OpState Extracted

/-- **C17 per round.**  The naive scheduler (a) never suspends; (b) starts at most one container per pool — the assignments go to distinct
pools, in pool order; (c) gives each all the CPU and RAM its pool has free at the start of the round. -/
theorem one_container_per_pool_with_all_free_resources (multi : Bool) (w w' : World) (st st' : St) (res : List Res) (newP : List Nat) (dec : Decision)
    (h : round multi w st res newP = .ok (w', st', dec)) :
    dec.sus = [] ∧ (dec.asgs.map (·.pool)).Sublist (List.range w.pools.length) ∧
    ∀ a ∈ dec.asgs, ∃ p, w.pools[a.pool]? = some p ∧ (a.cpu : Int) = p.availC ∧ (a.ram : Int) = p.availR ∧ a.ops ≠ [] := by
  have R := round_built (I := fun _ => True) (fun _ _ _ => trivial) h trivial
  refine ⟨R.sus, R.pools, fun a ha => ?_⟩
  obtain ⟨p, hp, wi, pid, S⟩ := R.served a ha
  exact ⟨p, hp, S.cpu, S.ram, S.ops ▸ not_skipped_ops S.eligible⟩

/-- **no retries; single-operator mode.**  Whatever the scan hands out belongs to one pipeline of the queue that has no failed operator (at that
moment), and with multi-operator containers disabled it is exactly one operator, assignable and with all parents completed. -/
theorem assigned_work_is_failure_free_and_ready (multi : Bool) (pool cpu ram : Nat) (queue : List Nat) (w : World) (req : List Nat)
    (w' : World) (rest req' : List Nat) (a : Asg) (h : pop w multi pool cpu ram queue req = .ok (w', rest, req', some a)) :
    ∃ pid ∈ queue, w.hasFailures pid = false ∧ (∀ o ∈ a.ops, o ∈ (w.pipes.getD pid default).order ∧ w.store.stOf o ∈ assignable) ∧
      (multi = false → a.ops.length = 1 ∧ ∀ o ∈ a.ops, ∀ q ∈ w.store.parentsOf o, w.store.stOf q = completed) := by
  obtain ⟨pre, _, ⟨h0, _⟩ | ⟨pid, a', h1, hq, hns, hmk, _⟩⟩ := pop_ok h
  · cases h0
  · cases h1
    have hops : a.ops = opsFor w multi pid := congrArg Asg.ops (mkA_ok hmk).1
    rw [hops]
    refine ⟨pid, hq ▸ List.mem_append_right _ List.mem_cons_self, not_skipped_failures hns, fun o ho => ⟨(mem_opsFor ho).1, (mem_opsFor ho).2.1⟩, ?_⟩
    rintro rfl
    exact ⟨Nat.le_antisymm (opsFor_single_length w pid) (List.length_pos_iff.mpr (not_skipped_ops hns)), fun o ho => (mem_opsFor ho).2.2 rfl⟩

/-- **first come, first served (one pool).**  The container of a pool goes to the *first* pipeline of the waiting queue that is neither finished nor
failed and has something ready; every pipeline before it was passed over for exactly one of those reasons, the ones behind it keep their order, and the
ones put back (and the served one) are appended, in scan order, to the list of pipelines to be queued again. -/
theorem first_eligible_pipeline_is_served (multi : Bool) (pool cpu ram : Nat) : ∀ (queue : List Nat) (w : World) (req : List Nat) (w' : World) (rest req' : List Nat) (a : Asg),
    pop w multi pool cpu ram queue req = .ok (w', rest, req', some a) →
    ∃ pre pid, queue = pre ++ pid :: rest ∧ (∀ x ∈ pre, Skipped w multi x) ∧ ¬ Skipped w multi pid ∧ a.ops = opsFor w multi pid ∧
      req' = req ++ pre.filter (fun x => !(w.successful x || w.hasFailures x)) ++ [pid] := by
  intro queue w req w' rest req' a h
  obtain ⟨pre, hpre, ⟨h0, _⟩ | ⟨pid, a', h1, hq, hns, hmk, hreq⟩⟩ := pop_ok h
  · cases h0
  · cases h1
    obtain ⟨rfl, _⟩ := mkA_ok hmk
    exact ⟨pre, pid, hq, hpre, hns, rfl, hreq⟩

inductive Pairs (R : Asg → Nat → Prop) : List Asg → List Nat → Prop
  | nil : Pairs R [] []
  | cons {a : Asg} {p : Nat} {as : List Asg} {ps : List Nat} : R a p → Pairs R as ps → Pairs R (a :: as) (p :: ps)

/-- **first come, first served (one round).**  Over the pools of one round the waiting queue is consumed from the front: the pipelines served are a
subsequence of the queue in queue order — pool after pool, each container goes to the first eligible pipeline behind the one served before — and the
part of the queue that was not reached stays as it is. -/
theorem pipelines_are_served_in_queue_order (multi : Bool) : ∀ (ips : List (Nat × Pool)) (w : World) (queue req : List Nat) (acc : List Asg)
    (w' : World) (queue' req' : List Nat) (out : List Asg),
    pools multi w ips queue req acc = .ok (w', queue', req', out) →
    ∃ (scanned served : List Nat) (new : List Asg), queue = scanned ++ queue' ∧ out = acc ++ new ∧ served.Sublist scanned ∧
      Pairs (fun (a : Asg) pid => ∃ wi, a.ops = opsFor wi multi pid ∧ ¬ Skipped wi multi pid) new served ∧
      ∃ kept, req' = req ++ kept ∧ kept.Sublist scanned ∧ served.Sublist kept := by
  intro ips w queue req acc w' queue' req' out h
  induction h using pools_induct with
  | nil => exact ⟨[], [], [], rfl, (List.append_nil _).symm, .refl _, .nil, [], (List.append_nil _).symm, .refl _, .refl _⟩
  | full _ _ _ ih => exact ih
  | scan w _ _ queue req _ _ _ hp _ ih =>
    obtain ⟨sc, sv, new, e1, e2, s1, f, kept, k1, k2, k3⟩ := ih
    obtain ⟨pre, _, ⟨rfl, _, rfl, rfl, h4⟩ | ⟨pid, a, rfl, rfl, hns, hmk, h4⟩⟩ := pop_ok hp
    · -- nobody is served: the whole queue was passed over, nothing is left for the pools behind
      obtain ⟨rfl, rfl⟩ := List.append_eq_nil_iff.mp e1.symm
      obtain rfl := List.sublist_nil.mp s1
      obtain rfl := List.sublist_nil.mp k2
      exact ⟨queue, [], new, (List.append_nil _).symm, by rw [e2, Option.toList_none, List.append_nil], List.nil_sublist _, f,
        queue.filter (fun x => !(w.successful x || w.hasFailures x)), by rw [k1, h4, List.append_nil], List.filter_sublist, List.nil_sublist _⟩
    · refine ⟨pre ++ pid :: sc, pid :: sv, a :: new, by rw [e1, List.append_assoc]; rfl, by rw [e2, List.append_assoc]; rfl, ?_,
        .cons ⟨w, by rw [(mkA_ok hmk).1], hns⟩ f, pre.filter (fun x => !(w.successful x || w.hasFailures x)) ++ pid :: kept,
        by rw [k1, h4, List.append_assoc, List.append_assoc]; rfl, ?_, ?_⟩
      · exact (List.Sublist.cons_cons pid s1).trans (List.sublist_append_right _ _)
      · exact List.Sublist.append List.filter_sublist (List.Sublist.cons_cons pid k2)
      · exact (List.Sublist.cons_cons pid k3).trans (List.sublist_append_right _ _)

/-- **first come, first served (across rounds).**  New arrivals join the back of the waiting queue; the pipelines served in a round are a subsequence of
(queue ++ arrivals) in that order; the queue handed to the next round is the part not reached followed by the pipelines that were scanned and kept. -/
theorem round_is_first_come_first_served (multi : Bool) (w w' : World) (st st' : St) (res : List Res) (newP : List Nat) (dec : Decision)
    (h : round multi w st res newP = .ok (w', st', dec)) (hne : ¬ (newP.isEmpty && res.isEmpty) = true) :
    ∃ (scanned unreached served kept : List Nat), st.queue ++ newP = scanned ++ unreached ∧ served.Sublist scanned ∧ kept.Sublist scanned ∧ served.Sublist kept ∧
      st'.queue = unreached ++ kept ∧
      Pairs (fun (a : Asg) pid => ∃ wi, a.ops = opsFor wi multi pid ∧ ¬ Skipped wi multi pid) dec.asgs served := by
  rcases round_ok h with ⟨he, _⟩ | ⟨_, q1, r1, asgs, hp, rfl, rfl⟩
  · exact absurd he hne
  · obtain ⟨sc, sv, new, e1, e2, s1, f, kept, k1, k2, k3⟩ := pipelines_are_served_in_queue_order multi _ _ _ _ _ _ _ _ _ hp
    simp only [List.nil_append] at e2 k1
    subst e2
    exact ⟨sc, q1, sv, kept, e1, s1, k2, k3, by rw [k1], f⟩

/-- non-vacuity: three one-operator pipelines arrive together at two pools.  Pipelines 0 and 1 are served (pool 0, then pool 1); pipeline 2 was
not reached and heads the next queue, in front of the two that were served and kept. -/
def exWorld : World :=
  { cfg := { tps := 1, q := 64, g := 1280, multiOp := false },
    store := ((({} : Store).addOp 0 [] [{ baseNum := 1, read := 0 }]).addOp 1 [] [{ baseNum := 1, read := 0 }]).addOp 2 [] [{ baseNum := 1, read := 0 }],
    pools := [Pool.fresh 4 512, Pool.fresh 4 512],
    pipes := #[{ prio := 3, order := [0], first := 0, n := 1 }, { prio := 3, order := [1], first := 1, n := 1 }, { prio := 3, order := [2], first := 2, n := 1 }] }

example : (match round false exWorld {} [] [0, 1, 2] with
    | .ok (_, st', dec) => some (st'.queue, dec.asgs.map (fun a => (a.pool, a.ops)))
    | .error _ => none) = some ([2, 0, 1], [(0, [0]), (1, [1])]) := by decide

end Eudoxia.C17
