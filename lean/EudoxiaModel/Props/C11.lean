import EudoxiaModel.Proofs.Oom
/-! # C11 — pool-level OOM kills take highest scorers first and stop once usage fits

`cands` are the containers the pool-level step may choose from (not finished in this tick, using memory,
not already killed for exceeding their own limit); they are killed in the order `sortDesc cands`
(descending usage²/allocation) while the pool's usage exceeds its capacity. -/
namespace Eudoxia.C11
open Eudoxia

/-- the kill order is the candidates sorted by descending score: a permutation of them, pairwise ordered
(allocations are positive — `Assignment` refuses anything else) -/
theorem kill_order_is_descending_score (cands : List Ctr) (hpos : ∀ c ∈ cands, 0 < c.ram) :
    (sortDesc cands).Perm cands ∧ (sortDesc cands).Pairwise (fun a b => scoreGe a b = true) :=
  ⟨SortP.sortDesc_perm scoreGe cands,
   SortP.sortDesc_sorted_on scoreGe (fun c => 0 < c.ram) scoreGe_total (fun a b c hb => scoreGe_trans a b c hb) cands hpos⟩

/-- **no container is killed while one with a strictly higher score survives**: every victim scores at least as high as every
candidate that survives the tick -/
theorem no_higher_scorer_survives (cands : List Ctr) (hpos : ∀ c ∈ cands, 0 < c.ram) (capR : Nat) (usage : Int) (v s : Ctr)
    (hv : v ∈ (sortDesc cands).take (nVictims capR usage (sortDesc cands)))
    (hs : s ∈ (sortDesc cands).drop (nVictims capR usage (sortDesc cands))) : scoreGe v s = true :=
  SortP.pairwise_take_drop (kill_order_is_descending_score cands hpos).2 _ v hv s hs

/-- **no kill happens that was not needed**: before each pool-level kill the usage exceeds the capacity -/
theorem every_kill_was_needed (capR : Nat) (order : List Ctr) (usage : Int) (j : Nat) (h : j < nVictims capR usage order) :
    usage - memSum (order.take j) > capR := kills_are_needed capR order usage j h

/-- **killing stops as soon as the remaining usage fits into the pool** (or nobody is left to kill) -/
theorem killing_stops_when_usage_fits (capR : Nat) (order : List Ctr) (usage : Int) :
    nVictims capR usage order = order.length ∨ usage - memSum (order.take (nVictims capR usage order)) ≤ capR :=
  stops_once_usage_fits capR order usage

/-- the executable killer does exactly that: it marks as killed the first `nVictims` containers of the order it is given,
and lowers the pool's usage counter by their memory -/
theorem killer_kills_exactly_the_prefix (capR : Nat) (order : List Ctr) (w : Store) (act : List Ctr) (usage : Int)
    (w' : Store) (act' : List Ctr) (usage' : Int) (h : killVictims w capR act usage order = .ok (w', act', usage')) :
    usage' = usage - memSum (order.take (nVictims capR usage order)) ∧
    ∀ u, (findCtr act u.cid).isSome →
      killedIn act' u = (killedIn act u || ((order.take (nVictims capR usage order)).map (·.cid)).contains u.cid) :=
  ⟨killVictims_usage h, killVictims_marks h⟩

/-- **containers that finished in this tick or use no memory are never chosen** -/
theorem finished_or_idle_never_chosen (act : List Ctr) (v : Ctr) (hv : v ∈ sortDesc (oomCandidates act)) :
    v.completed = false ∧ 0 < v.mem := by
  have := (List.mem_filter.mp (mem_sortDesc hv)).2
  simpa using this

/-- **the pool's OOM step as a whole** (`ResourcePool._run_out_of_memory_killer`, the function the pool tick calls): first every container above its
own allocation is killed; if the pool's usage then fits its capacity nothing else happens; otherwise the candidates — the containers that, after those
kills, are unfinished and hold memory — are taken in descending score order, and exactly the first `k` of them are killed, where `k` is the least number
after which the usage fits (or all of them): the usage reported afterwards is the usage minus what those `k` held, every one of them was needed, no
candidate that survives scores strictly higher than one that was killed, and no other container's kill flag changes. -/
theorem pool_oom_step_kills_highest_scorers_until_usage_fits (w w' : Store) (p p' : Pool) (hpos : ∀ c ∈ p.active, 0 < c.ram)
    (h : oomKiller w p = .ok (w', p')) :
    ∃ w1 act1 cons1, killIndividual w p.active p.consumed = .ok (w1, act1, cons1) ∧
      (cons1 ≤ p.capR → p'.active = act1 ∧ p'.consumed = cons1 ∧ w' = w1) ∧
      (¬ cons1 ≤ p.capR →
        let order := sortDesc (oomCandidates act1)
        let k := nVictims p.capR cons1 order
        order.Perm (oomCandidates act1) ∧
        p'.consumed = cons1 - memSum (order.take k) ∧
        (k = order.length ∨ p'.consumed ≤ p.capR) ∧
        (∀ j, j < k → cons1 - memSum (order.take j) > p.capR) ∧
        (∀ v ∈ order.take k, ∀ s ∈ order.drop k, scoreGe v s = true) ∧
        (∀ u, (findCtr act1 u.cid).isSome → killedIn p'.active u = (killedIn act1 u || ((order.take k).map (·.cid)).contains u.cid))) := by
  obtain ⟨w1, act1, cons1, hk, hcase⟩ := oomKiller_ok h
  refine ⟨w1, act1, cons1, hk, fun hle => ?_, fun hgt => ?_⟩
  · rcases hcase with ⟨_, rfl, rfl⟩ | ⟨hgt, _⟩
    · exact ⟨rfl, rfl, rfl⟩
    · exact absurd hle hgt
  · rcases hcase with ⟨hle, _⟩ | ⟨_, act2, cons2, hv, rfl⟩
    · exact absurd hle hgt
    · -- the allocations are those the containers entered the killer with
      have hpos1 : ∀ c ∈ oomCandidates act1, 0 < c.ram := by
        intro c hc
        obtain ⟨c0, hc0, hi⟩ := (killIndividual_ident hk).mem_right (List.mem_filter.mp hc).1
        rw [hi.ram]; exact hpos c0 hc0
      have husage := killVictims_usage hv
      refine ⟨(kill_order_is_descending_score _ hpos1).1, husage, ?_, ?_, ?_, killVictims_marks hv⟩
      · rcases killing_stops_when_usage_fits p.capR (sortDesc (oomCandidates act1)) cons1 with h1 | h1
        · exact Or.inl h1
        · exact Or.inr (by simp only; rw [husage]; exact h1)
      · intro j hj; exact every_kill_was_needed p.capR _ cons1 j hj
      · intro v hv' s hs; exact no_higher_scorer_survives _ hpos1 p.capR cons1 v s hv' hs

/-- non-vacuity: three containers on a pool of capacity 100 using 60+50+30: the highest scorer alone is killed -/
example :
    let a : Ctr := { cid := 0, ops := [0], cpu := 1, ram := 100, mem := 60, pos := { ops := [] } }
    let b : Ctr := { cid := 1, ops := [1], cpu := 1, ram := 50, mem := 50, pos := { ops := [] } }
    let c : Ctr := { cid := 2, ops := [2], cpu := 1, ram := 200, mem := 30, pos := { ops := [] } }
    (sortDesc (oomCandidates [a, b, c])).map (·.cid) = [1, 0, 2] ∧ nVictims 100 140 (sortDesc (oomCandidates [a, b, c])) = 1 := by
  decide

end Eudoxia.C11
