import EudoxiaModel.Model.Sched.Priority
import EudoxiaModel.Proofs.Preempt
import EudoxiaModel.Proofs.BestPool
import EudoxiaModel.Proofs.PrioMulti
/-! # C12 — priority: strict priority order, work conservation, query-only preemption, per round and over whole runs -/
namespace Eudoxia.C12
open Eudoxia Eudoxia.Prio OpState Extracted

/-- **the pool a job is offered**: the one `get_pool_with_max_avail_ram` picks has free CPU and free RAM, and no pool with a free CPU has more free RAM -/
theorem best_pool_is_open_with_most_free_ram (sn : List Snap) (p : Nat) (h : bestPool sn = some p) :
    p < sn.length ∧ Snap.isOpen (sn.getD p default) ∧ ∀ s ∈ sn, s.availC > 0 → s.availR ≤ (sn.getD p default).availR :=
  bestPool_spec sn p h

/-- no pool is picked exactly when every pool has run out of free CPU or free RAM -/
theorem no_pool_iff_all_closed (sn : List Snap) : bestPool sn = none ↔ ∀ s ∈ sn, ¬ Snap.isOpen s := bestPool_none_iff sn

theorem prQueue_closed (q : Nat) (w : World) (jobs : List Job) (sn : List Snap) (k : Nat) (acc : List Asg)
    (h : bestPool sn = none) : prQueue q w jobs sn k acc = .ok (w, sn, k, acc) := by
  cases jobs with
  | nil => simp [prQueue]
  | cons j rest => simp [prQueue, h]

/-- every assignment of a queue run goes to a pool the snapshots list, and the run leaves their number as it was -/
theorem prQueue_pools_open (q : Nat) : ∀ (jobs : List Job) (w : World) (sn : List Snap) (k : Nat) (acc : List Asg)
    (w' : World) (sn' : List Snap) (k' : Nat) (out : List Asg),
    prQueue q w jobs sn k acc = .ok (w', sn', k', out) → sn'.length = sn.length ∧
    ∃ new, out = acc ++ new ∧ ∀ a ∈ new, a.pool < sn.length := by
  intro jobs w sn k acc w' sn' k' out h
  rw [prQueue_eq] at h
  obtain ⟨_, new, e, _, _, _, _, r⟩ := gQueue_spec h
  exact ⟨r.length, new, e, C08.prRun_pool r⟩

/-- **one queue.**  A queue run from the start consumes a prefix of the queue, in order; every assignment it makes is for one consumed job (its operators,
its priority); the assignments come out in queue (arrival) order; and it stops before the end of the
queue only when no pool is open any more. -/
theorem prQueue_spec {q : Nat} {w w' : World} {jobs : List Job} {sn sn' : List Snap} {k' : Nat} {out : List Asg}
    (h : prQueue q w jobs sn 0 [] = .ok (w', sn', k', out)) :
    k' ≤ jobs.length ∧ (k' < jobs.length → bestPool sn' = none) ∧
      List.Sublist (out.map (fun a => (a.ops, a.prio))) ((jobs.take k').map (fun j => (j.ops, j.prio))) := by
  rw [prQueue_eq] at h
  obtain ⟨hm, hstop, _, r⟩ := gQueue_spec0 h
  exact ⟨hm, fun hlt => Option.some.inj (hstop hlt), r.sublist⟩

theorem prQueue_closed0 {q : Nat} {w w' : World} {jobs : List Job} {sn sn' : List Snap} {k' : Nat} {out : List Asg}
    (hc : bestPool sn = none) (h : prQueue q w jobs sn 0 [] = .ok (w', sn', k', out)) : sn' = sn ∧ out = [] := by
  rw [prQueue_closed _ _ _ _ _ _ hc] at h
  cases h
  exact ⟨rfl, rfl⟩

/-- **strict priority and work conservation, per round.**  With `stq` the queues as the round's main loop sees them, a round of the priority
scheduler (a) consumes a prefix of each queue and assigns in queue order (so equal-priority work is served in arrival order);
(b) if a query job is left waiting nothing of a lower priority was assigned, and if an interactive job is left waiting no batch work was assigned;
(c) if any job is left waiting in any queue, every pool has run out of free CPU or of free RAM in the scheduler's accounting. -/
theorem round_order_and_conservation (w w' : World) (st st' : St) (res : List Res) (newP : List Nat) (dec : Decision)
    (h : prRound w st res newP = .ok (w', st', dec))
    (stq : St) (hstq : stq = prRequeueSuspended w (prNoteSuspending w (prEnqueue w st res newP))) :
    ∃ (k1 k2 k3 : Nat) (a1 a2 a3 : List Asg) (snEnd : List Snap),
      dec.asgs = a1 ++ a2 ++ a3 ∧
      st'.qry = stq.qry.drop k1 ∧ st'.inter = stq.inter.drop k2 ∧ st'.batch = stq.batch.drop k3 ∧
      List.Sublist (a1.map (fun a => (a.ops, a.prio))) ((stq.qry.take k1).map (fun j => (j.ops, j.prio))) ∧
      List.Sublist (a2.map (fun a => (a.ops, a.prio))) ((stq.inter.take k2).map (fun j => (j.ops, j.prio))) ∧
      List.Sublist (a3.map (fun a => (a.ops, a.prio))) ((stq.batch.take k3).map (fun j => (j.ops, j.prio))) ∧
      (st'.qry ≠ [] → a2 = [] ∧ a3 = []) ∧ (st'.inter ≠ [] → a3 = []) ∧
      ((st'.qry ≠ [] ∨ st'.inter ≠ [] ∨ st'.batch ≠ []) → ∀ s ∈ snEnd, ¬ Snap.isOpen s) := by
  obtain ⟨w1, w2, sn1, sn2, sn3, k1, k2, k3, a1, a2, a3, hq1, hq2, hq3, hdec, _, hst⟩ := hstq ▸ C08.prRound_ok h
  obtain rfl := hst.trans (PM.requests_eq w w' dec.sus _)
  obtain ⟨l1, c1, s1⟩ := prQueue_spec hq1
  obtain ⟨l2, c2, s2⟩ := prQueue_spec hq2
  obtain ⟨l3, c3, s3⟩ := prQueue_spec hq3
  -- a queue with a job left was stopped because every pool was closed; and closed pools stop the queues that follow at once
  have left : ∀ {l : List Job} {k : Nat}, k ≤ l.length → l.drop k ≠ [] → k < l.length :=
    fun hle hne => Nat.lt_of_le_of_ne hle (fun e => hne (List.drop_eq_nil_of_le (Nat.le_of_eq e.symm)))
  refine ⟨k1, k2, k3, a1, a2, a3, sn3, hdec, rfl, rfl, rfl, s1, s2, s3, fun hne => ?_, fun hne => (prQueue_closed0 (c2 (left l2 hne)) hq3).2,
    fun hw => (bestPool_none_iff sn3).mp ?_⟩
  · have h1 := c1 (left l1 hne)
    obtain ⟨e2, z2⟩ := prQueue_closed0 h1 hq2
    exact ⟨z2, (prQueue_closed0 (e2 ▸ h1) hq3).2⟩
  · rcases hw with hw | hw | hw
    · have h1 := c1 (left l1 hw)
      obtain ⟨e2, _⟩ := prQueue_closed0 h1 hq2
      obtain ⟨e3, _⟩ := prQueue_closed0 (e2 ▸ h1) hq3
      rw [e3, e2]; exact h1
    · have h2 := c2 (left l2 hw)
      rw [(prQueue_closed0 h2 hq3).1]; exact h2
    · exact c3 (left l3 hw)

/-- **query-only preemption, per round**: the priority scheduler suspends only while a query job is still waiting after the round's assignments,
at most one container per waiting query job, and only active non-query containers at an operator boundary. -/
theorem round_preemption (w w' : World) (st st' : St) (res : List Res) (newP : List Nat) (dec : Decision)
    (h : prRound w st res newP = .ok (w', st', dec)) :
    (dec.sus ≠ [] → st'.qry ≠ []) ∧ dec.sus.length ≤ st'.qry.length ∧
    ∀ x ∈ dec.sus, ∃ c ∈ (w.pools.getD x.1 default).active, c.cid = x.2 ∧ c.prio ≠ prioQuery ∧ c.canSuspend = true := by
  obtain ⟨w1, w2, sn1, sn2, sn3, k1, k2, k3, a1, a2, a3, _, _, _, _, hsus, hst⟩ := C08.prRound_ok h
  obtain rfl := hst.trans (PM.requests_eq w w' dec.sus _)
  simp only
  rw [hsus]
  -- `Q`: the query jobs still waiting after the round's assignments
  generalize List.drop k1 (prRequeueSuspended w (prNoteSuspending w (prEnqueue w st res newP))).qry = Q
  cases Q with
  | nil =>
    rw [List.isEmpty_nil, if_pos rfl]
    exact ⟨fun hne => absurd rfl hne, Nat.le_refl _, fun _ hx => nomatch hx⟩
  | cons j Q =>
    rw [List.isEmpty_cons, if_neg Bool.false_ne_true]
    obtain ⟨hp, hl⟩ := Preempt.prSuspend_spec (w.pools.map (·.active)) (j :: Q).length
    refine ⟨fun _ => List.cons_ne_nil j Q, hl, fun x hx => ?_⟩
    obtain ⟨c, hc, e⟩ := hp x hx
    rw [PM.map_active_getD] at hc
    exact ⟨c, hc, e⟩

def _root_.Eudoxia.Prio.St.has (s : St) (j : Job) : Prop := j ∈ s.qry ∨ j ∈ s.inter ∨ j ∈ s.batch

theorem St.has_iff {s : St} {j : Job} : s.has j ↔ j ∈ s.jobs := by
  simp only [St.has, St.jobs, List.mem_append, or_assoc]

theorem find_filter_ne (l : List (Nat × Job)) (a b : Nat) (h : a ≠ b) :
    (l.filter (·.1 != b)).find? (·.1 == a) = l.find? (·.1 == a) := by
  rw [List.find?_filter]
  congr 1
  funext x
  by_cases hx : x.1 = a <;> simp [hx, h]

theorem rqStep_mono {job : Job} {st : St} (c : Ctr) (h : st.has job) : (PM.rqStep st c).has job := by
  unfold PM.rqStep
  split
  · exact St.has_iff.mpr ((mem_push _ _ _ _).mpr (Or.inl (St.has_iff.mp h)))
  · exact h

def Pending (cid : Nat) (job : Job) (st : St) : Prop := st.has job ∨ ∃ k, st.susp.find? (·.1 == cid) = some (k, job)

theorem rqStep_pending {cid : Nat} {job : Job} {st : St} (c : Ctr) (h : Pending cid job st) :
    Pending cid job (PM.rqStep st c) ∧ (c.cid = cid → (PM.rqStep st c).has job) := by
  rcases h with h | ⟨k, h⟩
  · exact ⟨Or.inl (rqStep_mono c h), fun _ => rqStep_mono c h⟩
  · have hit : c.cid = cid → (PM.rqStep st c).has job := by
      intro hc
      unfold PM.rqStep
      rw [hc, h]
      exact St.has_iff.mpr ((mem_push _ _ _ _).mpr (Or.inr rfl))
    refine ⟨?_, hit⟩
    by_cases hc : c.cid = cid
    · exact Or.inl (hit hc)
    · unfold PM.rqStep
      split
      · exact Or.inr ⟨k, by rw [push_susp]; simp only; rw [find_filter_ne _ _ _ (fun e => hc e.symm)]; exact h⟩
      · exact Or.inr ⟨k, h⟩

/-- **suspended work is offered again.**  If, when a round starts, a container sits in some pool's suspended list and the scheduler has a job
remembered under that container, the re-queue step puts exactly that job back into one of the waiting queues (from where the main loop of the same
round serves it in priority order). -/
theorem suspended_work_is_requeued (w : World) (st : St) (k : Nat) (c : Ctr) (key : Nat) (job : Job)
    (hk : k < w.pools.length) (hc : c ∈ (w.pools.getD k default).suspended)
    (hj : st.susp.find? (·.1 == c.cid) = some (key, job)) :
    (prRequeueSuspended w st).has job := by
  rw [PM.prRequeueSuspended_eq]
  have h := foldl_inv (f := PM.rqStep) (fun pre s => Pending c.cid job s ∧ ((∃ d ∈ pre, d.cid = c.cid) → s.has job)) (l := PM.allSuspended w) (b := st)
    ⟨Or.inr ⟨key, hj⟩, fun ⟨_, h, _⟩ => nomatch h⟩ fun pre d _ s _ ⟨p, q⟩ => by
      obtain ⟨p1, p2⟩ := rqStep_pending d p
      refine ⟨p1, fun ⟨x, hx, e⟩ => ?_⟩
      rcases List.mem_append.mp hx with hx | hx
      · exact rqStep_mono d (q ⟨x, hx, e⟩)
      · obtain rfl := List.mem_singleton.mp hx
        exact p2 e
  exact h.2 ⟨c, List.mem_flatMap.mpr ⟨k, List.mem_range.mpr hk, hc⟩, rfl⟩

/-- the job remembered when a suspension is requested (or seen in progress) is found again under the container's number -/
theorem dictSet_find (d : List (Nat × Job)) (k : Nat) (j : Job) : (dictSet d k j).find? (·.1 == k) = some (k, j) := by
  unfold dictSet
  by_cases h : d.any (·.1 == k) = true
  · -- overwriting does not change which entries carry the key `k`, so the new entry is found where the old one was
    have hp : ((fun x : Nat × Job => x.1 == k) ∘ fun x => if (x.1 == k) = true then (k, j) else x) = (·.1 == k) := by
      funext x
      show ((if (x.1 == k) = true then (k, j) else x).1 == k) = (x.1 == k)
      by_cases hx : (x.1 == k) = true
      · rw [if_pos hx, hx]
        exact decide_eq_true rfl  -- `k == k` on `Nat` is `decide (k = k)`; looking up `ReflBEq Nat` is slow here
      · rw [if_neg hx]
    rw [if_pos h, List.find?_map, hp]
    obtain ⟨y, hy, hk⟩ := List.any_eq_true.mp h
    cases hf : d.find? (·.1 == k) with
    | none => exact absurd hk (List.find?_eq_none.mp hf y hy)
    | some z => rw [Option.map_some, if_pos (List.find?_some hf)]
  · rw [if_neg h, List.find?_append, List.find?_eq_none.mpr fun x hx hk => h (List.any_eq_true.mpr ⟨x, hx, hk⟩), Option.none_or]
    exact List.find?_cons_of_pos (decide_eq_true rfl)

def Extends (s t : St) : Prop := (∃ a, t.qry = s.qry ++ a) ∧ (∃ a, t.inter = s.inter ++ a) ∧ (∃ a, t.batch = s.batch ++ a)

theorem Extends.refl (s : St) : Extends s s := ⟨⟨[], by simp⟩, ⟨[], by simp⟩, ⟨[], by simp⟩⟩

theorem Extends.trans {a b c : St} (h1 : Extends a b) (h2 : Extends b c) : Extends a c := by
  obtain ⟨⟨x1, e1⟩, ⟨x2, e2⟩, ⟨x3, e3⟩⟩ := h1
  obtain ⟨⟨y1, f1⟩, ⟨y2, f2⟩, ⟨y3, f3⟩⟩ := h2
  exact ⟨⟨x1 ++ y1, by rw [f1, e1, List.append_assoc]⟩, ⟨x2 ++ y2, by rw [f2, e2, List.append_assoc]⟩, ⟨x3 ++ y3, by rw [f3, e3, List.append_assoc]⟩⟩

theorem push_extends (s : St) (j : Job) (p : Nat) : Extends s (s.push j p) := by
  unfold St.push
  split
  · exact ⟨⟨[j], rfl⟩, ⟨[], by simp⟩, ⟨[], by simp⟩⟩
  · split
    · exact ⟨⟨[], by simp⟩, ⟨[j], rfl⟩, ⟨[], by simp⟩⟩
    · exact ⟨⟨[], by simp⟩, ⟨[], by simp⟩, ⟨[j], rfl⟩⟩

theorem foldl_extends {α : Type} (f : St → α → St) (hf : ∀ s x, Extends s (f s x)) (l : List α) (s : St) : Extends s (l.foldl f s) :=
  foldl_inv (fun _ t => Extends s t) (Extends.refl s) fun _ x _ t _ h => h.trans (hf t x)

theorem ite_extends {s a b : St} {c : Prop} [Decidable c] (ha : Extends s a) (hb : Extends s b) : Extends s (if c then a else b) := by
  split
  · exact ha
  · exact hb

theorem susp_only_extends (s : St) (d : List (Nat × Job)) : Extends s { s with susp := d } := ⟨⟨[], by simp⟩, ⟨[], by simp⟩, ⟨[], by simp⟩⟩

/-- **nothing jumps the queue.**  What the priority scheduler does to its queues before the main loop of a round — queueing new and failed work,
remembering suspending containers, re-queueing suspended work — only appends at the end: every job already waiting keeps its place ahead of
everything queued later.  With `round_order_and_conservation` (each queue is consumed from its head, in order) this is first come, first served
within a class across rounds. -/
theorem queues_only_grow_at_the_end (w : World) (st : St) (res : List Res) (newP : List Nat) :
    Extends st (prRequeueSuspended w (prNoteSuspending w (prEnqueue w st res newP))) := by
  -- whichever branch `prEnqueue` takes for a pipeline, it pushes
  have h1 : Extends st (prEnqueue w st res newP) :=
    ite_extends (.refl st) (foldl_extends _ (fun s _ =>
      ite_extends (.refl s) (ite_extends (push_extends _ _ _) (foldl_extends _ (fun _ _ => push_extends _ _ _) _ _))) _ _)
  have h2 : ∀ s, Extends s (prNoteSuspending w s) := fun s => PM.prNoteSuspending_eq w s ▸ susp_only_extends s _
  have h3 : ∀ s, Extends s (prRequeueSuspended w s) := by
    intro s
    rw [PM.prRequeueSuspended_eq]
    refine foldl_extends _ (fun s' c => ?_) _ s
    unfold PM.rqStep
    split
    · exact (susp_only_extends s' _).trans (push_extends _ _ _)
    · exact Extends.refl s'
  exact h1.trans ((h2 _).trans (h3 _))

/-- **suspended work is offered again, whole and in the very next round — in every round of every run.**  In a world that satisfies the loop invariant `PM.PMInv` of `priority` with multi-operator containers
(which every round and tick of every run re-establishes: `C08.priority_multi_operator_run_never_raises`),
for every container whose write-out ended in the last tick the round's re-queue step puts a job into the waiting queues whose operators are exactly the
container's unfinished suffix -/
theorem suspended_work_is_offered_again_whole_in_every_round_of_every_run (w : World) (st : St) (cs js : List Ctr) (newP F : List Nat) (inv : PM.PMInv w st cs js (newP ++ F)) :
    ∀ c ∈ js, ∃ job, (prRequeueSuspended w (prNoteSuspending w (prEnqueue w st (cs.map mkRes) newP))).has job ∧ job.ops = c.unfinished := by
  intro c hc
  obtain ⟨_, _, _, cDS, _⟩ := cidsOK_facts inv.cids
  obtain ⟨x, hx, e⟩ := List.mem_map.mp (inv.has c hc)
  obtain ⟨_, _, _, _, _, p, hp, hcp⟩ := inv.park c hc
  obtain ⟨k, hk, hkp⟩ := PM.pool_index hp
  have sas := inv.enqueued.susp
  generalize prEnqueue w st (cs.map mkRes) newP = sa at sas
  rw [PM.prNoteSuspending_eq]
  have hk0 : (sa.susp.map (·.1)).Nodup := by rw [sas]; exact inv.keys
  obtain ⟨n1, _, n3, _⟩ := PM.setAll_spec (PM.noteList w) sa.susp hk0
  have hxin : x ∈ PM.setAll sa.susp (PM.noteList w) := by
    apply n3 x (by rw [sas]; exact hx)
    rw [PM.noteList_keys, e]
    exact (cDS c.cid (List.mem_map_of_mem (List.mem_flatMap.mpr ⟨p, hp, hcp⟩))).1
  have hfind := find?_of_mem_nodup n1 hxin
  rw [e] at hfind
  refine ⟨x.2, suspended_work_is_requeued w _ k c x.1 x.2 hk (by rw [hkp]; exact hcp) hfind, (inv.ent x hx c (Or.inl hc) e.symm).1⟩

/-- **what waits in the queues, in every round of every run** (`priority`, multi-operator containers): under the loop invariant, the queued jobs share no
operator; each holds at least one operator; every operator of it is PENDING or FAILED — never ASSIGNED, RUNNING, SUSPENDING or COMPLETED; each operator's parents
are COMPLETED or earlier in the same job (so the job can be handed to the `Assignment` constructor as it is); and the job is *all* the unfinished work of its
pipeline.  This is the link between "is in a queue" and "is ready, pending work" that the per-round theorems above take as given. -/
theorem queued_jobs_are_ready_whole_and_distinct (w : World) (st : St) (cs js : List Ctr) (F : List Nat) (inv : PM.PMInv w st cs js F) :
    (st.jobs.flatMap (·.ops)).Nodup ∧ ∀ j ∈ st.jobs, j.ops ≠ [] ∧ (∀ o ∈ j.ops, w.store.stOf o = pending ∨ w.store.stOf o = failed) ∧
      ParentsOK w.store j.ops ∧ PM.WholeOps w.pipes w.store j.ops := by
  refine ⟨inv.jobs.nd, fun j hj => ⟨(inv.jobs.ok j hj).ne, fun o ho => ?_, (inv.jobs.ok j hj).par, inv.whole j hj⟩⟩
  have := ((inv.jobs.ok j hj).ok o ho).2.1
  simpa [assignable] using this

/-- the same link with single-operator containers: under the loop invariant of that mode (`C08.priority_single_operator_run_never_raises` re-establishes it tick
after tick) every queued job is exactly one operator, no operator is queued twice, and each is PENDING or FAILED with *all its parents COMPLETED* — ready -/
theorem queued_operators_are_ready_and_distinct_single (w : World) (st : St) (res : List Res) (inv : Prio.PRInv w st res) :
    (st.jobs.flatMap (·.ops)).Nodup ∧ ∀ j ∈ st.jobs, ∃ o, j.ops = [o] ∧ (w.store.stOf o = pending ∨ w.store.stOf o = failed) ∧
      ∀ p ∈ w.store.parentsOf o, w.store.stOf p = completed := by
  refine ⟨inv.jobs.nd, fun j hj => ?_⟩
  obtain ⟨o, e, ok⟩ := (inv.jobs.ok j hj).one
  exact ⟨o, e, by simpa [assignable] using ok.2.1, ok.2.2.1⟩

/-- the same link for `priority-pool` (multi-operator containers): under its loop invariant (`C08.priority_pool_multi_operator_run_never_raises` re-establishes it tick after
tick, from every fresh world) the queued jobs share no operator, none is empty, every operator of a queued job is PENDING or FAILED, and each operator's parents
are COMPLETED or earlier in the same job; and nothing queued belongs to a pipeline that has not arrived yet -/
theorem queued_jobs_are_ready_and_distinct_priority_pool (w : World) (st : St) (cs : List Ctr) (F : List Nat) (inv : PP.PPInv w st cs F) :
    (st.jobs.flatMap (·.ops)).Nodup ∧ (∀ o ∈ st.jobs.flatMap (·.ops), w.store.pidOf o ∉ F) ∧
    ∀ j ∈ st.jobs, j.ops ≠ [] ∧ (∀ o ∈ j.ops, w.store.stOf o = pending ∨ w.store.stOf o = failed) ∧ ParentsOK w.store j.ops := by
  refine ⟨inv.jobs.nd, inv.jobsF, fun j hj => ⟨(inv.jobs.ok j hj).ne, fun o ho => ?_, (inv.jobs.ok j hj).par⟩⟩
  have := ((inv.jobs.ok j hj).ok o ho).2.1
  simpa [assignable] using this

end Eudoxia.C12
