import EudoxiaModel.Proofs.Csv
/-! # C14 — trace files round-trip: what is written is what is read, for any pipeline DAG -/
namespace Eudoxia.C14
open Eudoxia.Csv

/-- **write → read is the identity**, for every list of well-formed pipelines: any DAG (parents are any earlier
operators — several roots, multi-parent), any priority, any numeric cells, explicit `0` versus unset memory. -/
theorem write_then_read (ps : List CPipe) (h : ∀ p ∈ ps, p.WF) : fromRows (toRows ps) = .ok ps :=
  read_write_id ps h

/-- **read → write reproduces every row** of a file in the writer's format -/
theorem read_then_write (ps : List CPipe) (h : ∀ p ∈ ps, p.WF) :
    (fromRows (toRows ps)).map toRows = .ok (toRows ps) := by
  rw [read_write_id ps h]; rfl

theorem error_of_not_ok {rows : List Row} (h : ∀ p, mkPipe rows ≠ .ok p) : ∃ e, mkPipe rows = .error e := by
  cases hm : mkPipe rows with
  | error e => exact ⟨e, rfl⟩
  | ok p => exact absurd hm (h p)

/-- **malformed: priority missing or unknown on a pipeline's first row** -/
theorem refuses_bad_priority (r : Row) (rs : List Row) (h : validPrio r.prio = false) :
    mkPipe (r :: rs) = .error .badPriority := by
  unfold mkPipe; simp [h]

/-- **malformed: arrival missing on a pipeline's first row** -/
theorem refuses_missing_arrival (r : Row) (rs : List Row) (h : r.arrival = none) : ∃ e, mkPipe (r :: rs) = .error e := by
  refine error_of_not_ok fun p hm => ?_
  have := (mkPipe_ok_first hm).arrival
  rw [h] at this; cases this

/-- **malformed: priority or arrival set on a later row** -/
theorem refuses_later_priority_or_arrival (r : Row) (rs : List Row)
    (h : ∃ x ∈ rs, x.prio ≠ "" ∨ x.arrival ≠ none) : ∃ e, mkPipe (r :: rs) = .error e := by
  refine error_of_not_ok fun p hm => ?_
  obtain ⟨x, hx, hbad⟩ := h
  have := laterRowsOk_ok rs (mkPipe_ok_first hm).later x hx
  exact hbad.elim (· this.1) (· this.2)

/-- **malformed: unknown scaling law** -/
theorem refuses_unknown_law (r : Row) (rs : List Row) (h : ∃ x ∈ r :: rs, validLaw x.law = false) :
    ∃ e, mkPipe (r :: rs) = .error e := by
  refine error_of_not_ok fun p hm => ?_
  obtain ⟨x, hx, hbad⟩ := h
  have := buildOps_ok _ _ _ _ (mkPipe_ok_first hm).ops x hx
  rw [hbad] at this; cases this

/-- **malformed: undefined parent** — the case of a pipeline's first row: no operator is defined before it, so any parent id
on it is refused (a dangling parent on a later row is not covered by this statement) -/
theorem refuses_undefined_parent (r : Row) (rs : List Row) (q : Nat) (hq : q ∈ r.parents) : ∃ e, mkPipe (r :: rs) = .error e := by
  refine error_of_not_ok fun p hm => ?_
  obtain ⟨_, _, hr, _⟩ := buildOps_cons_ok (mkPipe_ok_first hm).ops
  -- the first row is resolved against the empty table, in which nothing is found
  obtain ⟨e, he, _⟩ := resolveAll_some _ _ _ hr q hq
  cases he

/-- non-vacuity: a diamond with an extra root, explicit zero memory on one operator, unset on the others,
    meets the well-formedness hypothesis -/
example : ∀ p ∈ [(⟨"QUERY", "0.5", [⟨[], "1", "const", none, "10"⟩]⟩ : CPipe),
    ⟨"BATCH_PIPELINE", "0.5", [⟨[], "1", "const", some "0", "55"⟩, ⟨[0], "2", "sqrt", none, "55"⟩, ⟨[0], "5", "linear3", none, "45"⟩,
                               ⟨[1, 2], "80", "squared", some "4", "10"⟩, ⟨[], "1", "exp", none, "0"⟩]⟩], p.WF := by
  simp only [List.forall_mem_cons, List.not_mem_nil, false_imp_iff, implies_true, and_true, CPipe.WF, COpsWF]
  decide +kernel

end Eudoxia.C14
