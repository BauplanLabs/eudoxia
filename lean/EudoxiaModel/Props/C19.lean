import EudoxiaModel.Model.Rest
/-! # C19 — the REST bridge is transparent and keeps its protocol promises  (PARTIAL)

Proved: the bookkeeping (when a call is made, what the pipeline lists contain, completion reported once).
Not expressible in the model: sockets, JSON text, `requests`, the Go peer — exercised over loop-back HTTP by the tie. -/
namespace Eudoxia.C19
open Eudoxia.Rest

theorem mustCall_iff (c : Cfg) (st : St) (newP : List Nat) (hasResults : Bool) :
    mustCall c st newP hasResults = true ↔
      (newP ≠ [] ∨ hasResults = true ∨ c.pollNum * c.tps ≤ ((st.tick + 1) - st.lastCall) * c.pollDen) := by
  simp only [mustCall, Bool.or_eq_true, Bool.not_eq_true', List.isEmpty_eq_false_iff, decide_eq_false_iff_not, Nat.not_lt, or_assoc]

theorem payload_iff {c : Cfg} {st : St} {newP : List Nat} {hr : Bool} {complete : Nat → Bool} {p : Payload} :
    (step c st newP hr complete).2 = some p ↔
      mustCall c st newP hr = true ∧ p = { tick := st.tick + 1, newP := newP, other := st.known.map (fun p => (p, complete p)) } := by
  unfold step
  split <;> simp [*, eq_comm]

theorem mem_known_step (c : Cfg) (st : St) (newP : List Nat) (hr : Bool) (complete : Nat → Bool) (x : Nat) :
    x ∈ (step c st newP hr complete).1.known ↔
      if mustCall c st newP hr = true then (x ∈ st.known ∨ x ∈ newP) ∧ complete x = false else x ∈ st.known := by
  unfold step
  split
  · by_cases hk : x ∈ st.known <;> simp [hk]
  · rfl

/-- **a call is made whenever something arrived or finished, and otherwise exactly when the poll interval has passed** -/
theorem call_condition (c : Cfg) (st : St) (newP : List Nat) (hasResults : Bool) (complete : Nat → Bool) :
    ((step c st newP hasResults complete).2.isSome ↔
      (newP ≠ [] ∨ hasResults = true ∨ c.pollNum * c.tps ≤ ((st.tick + 1) - st.lastCall) * c.pollDen)) := by
  rw [← mustCall_iff, step]
  split <;> simp [*]

/-- **new and previously known pipelines are disjoint** (given that arriving pipelines are new) -/
theorem new_other_disjoint (c : Cfg) (st : St) (newP : List Nat) (hr : Bool) (complete : Nat → Bool) (p : Payload)
    (hfresh : ∀ x ∈ newP, x ∉ st.known) (h : (step c st newP hr complete).2 = some p) :
    ∀ x ∈ p.newP, x ∉ p.other.map (·.1) := by
  obtain ⟨_, rfl⟩ := payload_iff.mp h
  simpa only [List.map_map, Function.comp_def, List.map_id'] using hfresh

/-- **a completed pipeline is reported once as complete and then never again**, stated from the state the reporting call leaves
behind: that call drops `x` from the known list, and a pipeline that is not known and does not arrive again appears in no later
payload's `other_pipelines` -/
theorem reported_complete_then_never_again (c : Cfg) : ∀ (ins : List In) (st : St) (x : Nat),
    x ∉ st.known → (∀ i ∈ ins, x ∉ i.newP) → ∀ p ∈ run c st ins, ∀ q, p = some q → x ∉ q.other.map (·.1) := by
  intro ins
  induction ins with
  | nil => intro st x _ _ p hp; cases hp
  | cons i is ih =>
    intro st x hx hn p hp q hq
    rcases List.mem_cons.mp hp with rfl | hp'
    · obtain ⟨_, rfl⟩ := payload_iff.mp hq
      simpa only [List.map_map, Function.comp_def, List.map_id'] using hx
    · have hx' : x ∉ (step c st i.newP i.hasResults i.complete).1.known := by
        rw [mem_known_step]
        split
        · exact fun h => h.1.elim hx (hn i (List.mem_cons_self ..))
        · exact hx
      exact ih _ x hx' (fun j hj => hn j (List.mem_cons_of_mem _ hj)) p hp' q hq

/-- **every call carries every known pipeline with its current completion flag** — in particular a pipeline that has completed since the last call
*is* reported complete at the next one (the "exactly once" of the property: `reported_complete_then_never_again` is the "at most once") -/
theorem every_known_pipeline_is_listed_with_its_flag (c : Cfg) (st : St) (newP : List Nat) (hr : Bool) (complete : Nat → Bool) (p : Payload)
    (h : (step c st newP hr complete).2 = some p) (x : Nat) (hx : x ∈ st.known) : (x, complete x) ∈ p.other := by
  obtain ⟨_, rfl⟩ := payload_iff.mp h
  exact List.mem_map.mpr ⟨x, hx, rfl⟩

/-- a pipeline that arrives (and is not complete on arrival) is known from then on -/
theorem arrivals_become_known (c : Cfg) (st : St) (newP : List Nat) (hr : Bool) (complete : Nat → Bool) (x : Nat)
    (hx : x ∈ newP) (hc : complete x = false) : x ∈ (step c st newP hr complete).1.known := by
  rw [mem_known_step, if_pos ((mustCall_iff ..).mpr (.inl (List.ne_nil_of_mem hx)))]
  exact ⟨.inr hx, hc⟩

/-- **the decisions in the reply are executed exactly as given**: decoding does not alter an assignment whose operators are registered,
and refuses one that names an unknown operator -/
theorem decode_is_identity_or_refusal (registered : List Nat) (m : AsgMsg) :
    decodeAsg registered m = some m ∨ (decodeAsg registered m = none ∧ ∃ o ∈ m.opIds, o ∉ registered) := by
  unfold decodeAsg
  split
  · exact .inl rfl
  · rename_i h
    exact .inr ⟨rfl, by simpa using h⟩

theorem run_cons (c : Cfg) (st : St) (i : In) (is : List In) :
    run c st (i :: is) = (step c st i.newP i.hasResults i.complete).2 :: run c (step c st i.newP i.hasResults i.complete).1 is := rfl

theorem run_append (c : Cfg) : ∀ (a b : List In) (st : St), run c st (a ++ b) = run c st a ++ run c (finalSt c st a) b := by
  intro a
  induction a with
  | nil => intro b st; rfl
  | cons i is ih => intro b st; simp only [List.cons_append, run, finalSt, ih]

theorem run_length (c : Cfg) : ∀ (l : List In) (st : St), (run c st l).length = l.length := by
  intro l
  induction l with
  | nil => intro st; rfl
  | cons i is ih => intro st; simp only [run, List.length_cons, ih]

theorem known_while_incomplete (c : Cfg) : ∀ (pre : List In) (st : St) (x : Nat), x ∈ st.known → (∀ i ∈ pre, i.complete x = false) →
    x ∈ (finalSt c st pre).known ∧ ∀ p ∈ run c st pre, ∀ q, p = some q → (x, true) ∉ q.other := by
  intro pre
  induction pre with
  | nil => intro st x hx _; exact ⟨hx, fun p hp => by cases hp⟩
  | cons i is ih =>
    intro st x hx hc
    have hci := hc i (List.mem_cons_self ..)
    have hx' : x ∈ (step c st i.newP i.hasResults i.complete).1.known := by
      rw [mem_known_step]
      split
      · exact ⟨.inl hx, hci⟩
      · exact hx
    obtain ⟨i1, i2⟩ := ih _ x hx' (fun j hj => hc j (List.mem_cons_of_mem _ hj))
    refine ⟨i1, fun p hp q hq => ?_⟩
    rcases List.mem_cons.mp hp with rfl | hp'
    · obtain ⟨_, rfl⟩ := payload_iff.mp hq
      intro hin
      obtain ⟨y, _, e⟩ := List.mem_map.mp hin
      obtain ⟨rfl, hy⟩ := Prod.mk.inj e
      rw [hci] at hy; cases hy
    · exact i2 p hp' q hq

/-- **a pipeline that completes is reported as complete exactly once.**  Take any run of the bridge in which the known pipeline `x` is incomplete during the
rounds `pre`, is complete from round `j` on, in which round the executor also returned a result (it always does when a pipeline completes:
`C06.completion_comes_with_a_success_result_in_the_same_tick`), and does not arrive again.  Then no call before round `j` lists `x` as complete, round `j` makes a
call and that call lists `x` as complete, and no call after round `j` mentions `x` at all. -/
theorem completed_pipeline_is_reported_complete_exactly_once (c : Cfg) (st : St) (x : Nat) (pre post : List In) (j : In)
    (hx : x ∈ st.known) (hpre : ∀ i ∈ pre, i.complete x = false) (hj : j.complete x = true) (hres : j.hasResults = true)
    (hpost : ∀ i ∈ post, x ∉ i.newP) :
    ∃ before q after, run c st (pre ++ j :: post) = before ++ some q :: after ∧ before.length = pre.length ∧
      (∀ p ∈ before, ∀ q', p = some q' → (x, true) ∉ q'.other) ∧ (x, true) ∈ q.other ∧
      (∀ p ∈ after, ∀ q', p = some q' → x ∉ q'.other.map (·.1)) := by
  obtain ⟨k1, k2⟩ := known_while_incomplete c pre st x hx hpre
  have hcall : mustCall c (finalSt c st pre) j.newP j.hasResults = true := (mustCall_iff ..).mpr (.inr (.inl hres))
  refine ⟨run c st pre, { tick := (finalSt c st pre).tick + 1, newP := j.newP, other := (finalSt c st pre).known.map (fun p => (p, j.complete p)) },
    run c (step c (finalSt c st pre) j.newP j.hasResults j.complete).1 post, ?_, run_length c pre st, k2, ?_, ?_⟩
  · rw [run_append, run_cons, (payload_iff (complete := j.complete)).mpr ⟨hcall, rfl⟩]
  · exact List.mem_map.mpr ⟨x, k1, by rw [hj]⟩
  · refine reported_complete_then_never_again c post _ x (fun hin => ?_) hpost
    rw [mem_known_step, if_pos hcall, hj] at hin
    cases hin.2

example : (run { tps := 10, pollNum := 1, pollDen := 1 } {} [⟨[1, 2], false, fun _ => false⟩, ⟨[], false, fun _ => false⟩,
    ⟨[], true, fun p => p == 1⟩, ⟨[], false, fun p => p == 1⟩]).map (fun o => o.map (fun p => (p.tick, p.newP, p.other))) =
    [some (1, [1, 2], []), none, some (3, [], [(1, true), (2, false)]), none] := by decide

end Eudoxia.C19
