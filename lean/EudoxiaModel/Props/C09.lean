import EudoxiaModel.Proofs.Account
import EudoxiaModel.Props.C10
import EudoxiaModel.Proofs.Cids
import EudoxiaModel.Proofs.FreshWorlds
/-! # C09 — every accepted assignment becomes exactly one container with exactly one outcome -/
namespace Eudoxia.C09
open Eudoxia OpState

/-- **a command naming a pool that does not exist is rejected, not silently dropped** — and nothing changes -/
theorem unknown_pool_rejected (w : World) (sus : List (Nat × Nat)) (asgs : List Asg)
    (h : (∃ s ∈ sus, s.1 ≥ w.pools.length) ∨ (∃ a ∈ asgs, a.pool ≥ w.pools.length)) :
    w.execTick sus asgs = .error (.unknownPool, some w) := by
  unfold World.execTick
  have : (sus.any (fun s => decide (s.1 ≥ w.pools.length)) || asgs.any (fun a => decide (a.pool ≥ w.pools.length))) = true := by
    simp only [Bool.or_eq_true, List.any_eq_true, decide_eq_true_eq]
    exact h
  simp [this]

/-- **accounting (full strength)**: in every world reachable under arbitrary command sequences, for every pool,
containers created (= assignments the pool accepted) = running + suspending + suspended + results reported, and the
successes are among the reported results (the remainder are the failures) -/
theorem assignments_equal_outcomes_plus_live {w0 w : World} (g0 : w0.AllPools PoolAcct) (h : Reach w0 w) :
    ∀ p ∈ w.pools, p.created = p.active.length + p.suspending.length + p.suspended.length + p.tickTimes.length ∧
      p.numCompleted ≤ p.tickTimes.length := by
  intro p hp
  obtain ⟨_, a⟩ := reach_lift acct_phases.tick h g0 p hp
  exact ⟨a.total, a.okLe⟩

theorem fresh_world_good (cfg : Cfg) (npools cpus ram : Nat) :
    ({ cfg := cfg, pools := List.replicate npools (Pool.fresh cpus ram) } : World).AllPools PoolAcct := by
  intro p hp
  have := List.eq_of_mem_replicate hp
  subst this
  exact ⟨⟨⟨poolInv_fresh _ _ _, by simp [Pool.NonNeg, Pool.fresh]⟩, memOK_fresh _ _⟩, ⟨rfl, Nat.le_refl _⟩⟩

/-- **each tick of a pool: one result per container that ends** — the results of the tick are exactly the containers that leave
the running list finished, and the others stay -/
theorem one_result_per_finished_container (p : Pool) :
    (collect p).2 = (p.active.filter (·.completed)).map mkRes ∧ (collect p).1.active = p.active.filter (fun c => !c.completed) :=
  ⟨(collect_spec p).res, (collect_spec p).active⟩

/-- a result is a success exactly when the container ended without an error -/
theorem success_iff_no_error (c : Ctr) : (mkRes c).ok = !c.err := rfl

/-- **failure shape**: a killed container reports an error and its current and later operators are FAILED -/
theorem killed_container_fails_unfinished_suffix {w w' : Store} {c c' : Ctr} {cons cons' : Int}
    (h : c.kill w cons = .ok (w', c', cons')) :
    c'.err = true ∧ c'.completed = true ∧ (∀ o ∈ c.ops.drop c.curOpIdx, w'.stOf o = failed) ∧
    (∀ o, w.stOf o = completed → w'.stOf o = completed) := by
  obtain ⟨hw, e, _⟩ := kill_ok h
  exact ⟨e ▸ rfl, e ▸ rfl, (transAll_stOf hw).1, fun o ho => completed_final (kill_steps h) o ho⟩

/-- every result of a pool tick is built from a container of the running list (so none from a container that was written out) -/
theorem suspended_container_reports_nothing (p : Pool) : ∀ r ∈ (collect p).2, ∃ c ∈ p.active, r = mkRes c := by
  intro r hr
  obtain ⟨c, hc, _, e⟩ := C10.results_come_from_running_containers p r hr
  exact ⟨c, hc, e⟩

/-- **what a result says about the operators, over a whole executor tick.**  In any world reached by ticks from one whose containers have their record straight
(`World.FinS`: e.g. a world without containers; the tick hands the property on), every result of a tick with any admissible commands is the result of a container
whose operators are COMPLETED up to where it got; it is a **success exactly when nothing is left** after that point; and a **failure leaves a non-empty rest,
all FAILED** — the completed prefix followed by failed operators of the property, however many pools, kills and write-outs the tick contained. -/
theorem result_is_completed_prefix_then_failed (w0 w1 : World) (asgs : List Asg) (sus : List (Nat × Nat)) (hr : WorldReady w0) (hb : Built w0 asgs w1)
    (hseg : ∀ a ∈ asgs, ∀ r ∈ a.ops, w0.store.segsOf r ≠ []) (hpar : ∀ a ∈ asgs, ParentsOK w1.store a.ops)
    (hsus : ∀ i, ((sus.filter (·.1 == i)).map (·.2)).Nodup) (hf : w0.FinS)
    {w2 : World} {res : List Res} (hx : w1.execTick sus asgs = .ok (w2, res)) :
    w2.FinS ∧ ∀ r ∈ res, ∃ c, r = mkRes c ∧ r.ops = c.ops.take c.curOpIdx ++ c.unfinished ∧
      (∀ o ∈ c.ops.take c.curOpIdx, w2.store.stOf o = completed) ∧
      (r.ok = true → c.unfinished = []) ∧ (r.ok = false → c.unfinished ≠ [] ∧ ∀ o ∈ c.unfinished, w2.store.stOf o = failed) := by
  obtain ⟨cs, js, T⟩ := execTick_finS hr hb hseg hpar hsus hf hx
  refine ⟨T.fin, fun r hrr => ?_⟩
  rw [T.res] at hrr
  obtain ⟨c, hcm, rfl⟩ := List.mem_map.mp hrr
  obtain ⟨f, hcc⟩ := T.ended c hcm
  refine ⟨c, rfl, by simp [mkRes, Ctr.unfinished], f.pre, fun hok => ?_, fun hok => ?_⟩
  · apply f.done hcc
    simpa [mkRes] using hok
  · apply f.dead hcc
    simpa [mkRes] using hok

/-- non-vacuity: a world without containers has every container's record straight -/
theorem fresh_world_finS (cfg : Cfg) (store : Store) (pipes : Array PipeInfo) (caps : List (Nat × Nat)) :
    World.FinS { cfg := cfg, store := store, pools := caps.map (fun c => Pool.fresh c.1 c.2), pipes := pipes } := by
  intro p hp c hc
  obtain ⟨x, _, rfl⟩ := List.mem_map.mp hp
  simp [Pool.fresh] at hc

/-- **one container per accepted assignment, told apart for ever.**  If the containers of all pools — running, being written out, suspended — carry pairwise
different numbers, all below the executor's counter (`World.CidsOK`), the same holds after an executor tick with any commands: a number handed out is never
handed out again, so results, suspension requests and the scheduler's remembered jobs, which all name a container by its number, name exactly one. -/
theorem container_numbers_never_reused {w w2 : World} {sus : List (Nat × Nat)} {asgs : List Asg} {res : List Res}
    (hg : ∀ p ∈ w.pools, PoolGoodMem w.cfg p w.nextCid) (hc : w.CidsOK) (hx : w.execTick sus asgs = .ok (w2, res)) : w2.CidsOK :=
  execTick_cids hg hc hx

/-- non-vacuity: a world without containers -/
theorem fresh_world_numbers (cfg : Cfg) (store : Store) (pipes : Array PipeInfo) (caps : List (Nat × Nat)) :
    World.CidsOK { cfg := cfg, store := store, pools := caps.map (fun c => Pool.fresh c.1 c.2), pipes := pipes } :=
  fresh_world_cidsOK cfg store pipes caps

/-- **over whole runs of `priority` with multi-operator containers** (the mode that suspends and resumes): on every tick of every run from a fresh world the
containers of all pools — running, being written out, suspended — carry pairwise different numbers below the executor's counter (a resumed job gets a
container of its own, never the number of the one that was written out), and every container's record of what it has finished is straight (`World.FinS`:
operators before its index COMPLETED) — the two invariants behind "one container per accepted assignment, one outcome per container" -/
theorem numbers_and_records_stay_straight_on_every_tick_of_every_priority_run (cfg : Cfg) (store : Store) (pipes : Array PipeInfo) (caps : List (Nat × Nat))
    (arrivals : List (List Nat)) (hm : cfg.multiOp = true) (ho : cfg.overcommit = false) (hq : 0 < cfg.q)
    (wf : (freshWorld cfg store pipes caps).WFP) (hs : (freshWorld cfg store pipes caps).SegsOK) (hp : (freshWorld cfg store pipes caps).PidOK)
    (ht : (freshWorld cfg store pipes caps).Topo) (hF : arrivals.flatten.Nodup)
    (hfut : ∀ pid ∈ arrivals.flatten, (pipes.getD pid default).order ≠ [] ∧ ∀ o ∈ (pipes.getD pid default).order, store.stOf o = OpState.pending) :
    ∃ w' st' res', Prio.loop (freshWorld cfg store pipes caps) {} [] arrivals = .ok (w', st', res') ∧ w'.CidsOK ∧ w'.FinS := by
  obtain ⟨w', st', cs', js', h, inv⟩ := PM.fresh_run cfg store pipes caps arrivals hm ho hq wf hs hp ht hF hfut
  exact ⟨w', st', _, h, inv.cids, inv.fins⟩

end Eudoxia.C09
