import EudoxiaModel.Model.Profile
import EudoxiaModel.Model.Pool
import EudoxiaModel.Proofs.Profile
import EudoxiaModel.Proofs.SpecRun
import EudoxiaModel.Proofs.OpIndex
/-! # C05 — container execution follows the documented time and memory model

The documented model is the specification `specRun` (Model/Profile.lean), which does not mention the tick generator;
the correspondence check runs thousands of real containers against it.  First the specification's formulas are the
documented ones; then the tick generator realises the specification. -/
namespace Eudoxia.C05
open Eudoxia Extracted

/-- I/O ticks are ⌊read_gb / 20 · ticks_per_second⌋ (in quanta: ⌊read / g⌋ with g·tps = 20·q) -/
theorem io_ticks_formula (cfg : Cfg) (s : Seg) : s.ioTicks cfg = s.read / cfg.g := rfl

/-- CPU ticks of the rational laws are ⌊baseline · tps / s(law, cpus)⌋ -/
theorem cpu_ticks_formula (cfg : Cfg) (cpus : Nat) (s : Seg) (h : s.law ≠ .sqrt ∧ s.law ≠ .log) :
    s.cpuTicks cfg cpus = s.baseNum * cfg.tps / (s.baseDen * s.law.divisor cpus) := by
  unfold Seg.cpuTicks Seg.cpuTicks?
  cases hl : s.law <;> simp_all

theorem cut_eq_min (c n : Nat) : (if c < n then c else n) = min c n := by
  by_cases h : c < n
  · rw [if_pos h, Nat.min_eq_left (Nat.le_of_lt h)]
  · rw [if_neg h, Nat.min_eq_right (Nat.le_of_not_lt h)]

theorem cut_mono (n : Nat) {c c' : Nat} (h : c ≤ c') : (if c < n then c else n) ≤ (if c' < n then c' else n) := by
  rw [cut_eq_min, cut_eq_min]
  exact Nat.le_min.mpr ⟨Nat.le_trans (Nat.min_le_left c n) h, Nat.min_le_right c n⟩

/-- the divisors of the documented laws: const 1, linear3 min(c,3), linear7 min(c,7), squared c², exp 2^min(c,4) -/
theorem law_divisors (c : Nat) :
    Law.divisor .const c = 1 ∧ Law.divisor .linear3 c = min c 3 ∧ Law.divisor .linear7 c = min c 7 ∧
    Law.divisor .squared c = c ^ 2 ∧ Law.divisor .exp c = 2 ^ (min c 4) := by
  refine ⟨rfl, cut_eq_min c 3, cut_eq_min c 7, rfl, ?_⟩
  show (if c < 4 then 2 ^ c else 16) = 2 ^ min c 4
  by_cases h : c < 4
  · rw [if_pos h, Nat.min_eq_left (Nat.le_of_lt h)]
  · rw [if_neg h, Nat.min_eq_right (Nat.le_of_not_lt h)]

/-- more cores never make a segment slower (rational laws): the divisor is monotone in the core count … -/
theorem divisor_monotone (l : Law) (c c' : Nat) (h : c ≤ c') (hc : 1 ≤ c) : l.divisor c ≤ l.divisor c' := by
  cases l
  case const | sqrt | log => exact Nat.le_refl 1
  case linear3 => exact cut_mono 3 h
  case linear7 => exact cut_mono 7 h
  case squared => exact Nat.pow_le_pow_left h 2
  case exp =>
    show (if c < 4 then 2 ^ c else 16) ≤ (if c' < 4 then 2 ^ c' else 16)
    by_cases h2 : c' < 4
    · rw [if_pos h2, if_pos (Nat.lt_of_le_of_lt h h2)]
      exact Nat.pow_le_pow_right (by decide) h
    · rw [if_neg h2]
      by_cases h1 : c < 4
      · rw [if_pos h1]
        exact Nat.pow_le_pow_right (by decide) (Nat.le_of_lt h1)
      · rw [if_neg h1]
        exact Nat.le_refl 16

/-- … hence the CPU tick count is antitone in the core count -/
theorem cpu_ticks_antitone (cfg : Cfg) (s : Seg) (c c' : Nat) (h : c ≤ c') (hc : 1 ≤ c) (hl : s.law ≠ .sqrt ∧ s.law ≠ .log) (hd : 0 < s.baseDen) :
    s.cpuTicks cfg c' ≤ s.cpuTicks cfg c := by
  rw [cpu_ticks_formula cfg c' s hl, cpu_ticks_formula cfg c s hl]
  -- the divisor is at least 1 at one core, hence at `c` cores
  have hpos : 0 < s.law.divisor c :=
    Nat.lt_of_lt_of_le (by cases s.law <;> decide) (divisor_monotone s.law 1 c hc (Nat.le_refl 1))
  exact Nat.div_le_div_left (Nat.mul_le_mul_left _ (divisor_monotone s.law c c' h hc)) (Nat.mul_pos hd hpos)

/-- linear3 / linear7 / exp are flat beyond 3 / 7 / 4 cores (README) -/
theorem laws_flat_beyond_their_bound (c : Nat) :
    (3 ≤ c → Law.divisor .linear3 c = 3) ∧ (7 ≤ c → Law.divisor .linear7 c = 7) ∧ (4 ≤ c → Law.divisor .exp c = 16) := by
  simp only [Law.divisor, linear3Cut, linear7Cut, expCut, expCap]
  exact ⟨fun h => if_neg (by omega), fun h => if_neg (by omega), fun h => if_neg (by omega)⟩

/-- during I/O a segment without fixed memory holds 20 GB per simulated second (g quanta per tick), afterwards the amount read;
    a segment with fixed memory holds that amount from its first tick -/
theorem memory_profile (cfg : Cfg) (s : Seg) (io i : Nat) :
    segMem cfg s io i = (if i < io then (match s.fixed with | some m => m | none => (i + 1) * cfg.g) else s.peak) := rfl

/-- **an operator occupies at least one tick** -/
theorem operator_occupies_at_least_one_tick (cfg : Cfg) (cpu : Nat) (segs : List Seg) (h : segs ≠ []) :
    1 ≤ tickSum (opTickTable cfg cpu segs) :=
  opTickTable_pos cfg cpu segs h

/-- **a new container starts with exactly the documented list of demands still to come**: the position-derived list `remL` of the container that
the pool creates for an assignment is, after renaming the labels from "operators that follow" to "operator index", the specification's
`ctrDemands` for the operators' segments and the documented tick counts at the assigned CPU count. -/
theorem new_container_has_the_documented_demands (cfg : Cfg) (w : Store) (cid : Nat) (a : Asg) :
    let c := mkCtr w cid a
    let ops := a.ops.map (fun r => w.segsOf r)
    c.frozen = false ∧ c.completed = false ∧ PosOK cfg c ∧ c.mem = 0 ∧ c.elapsed = 0 ∧ c.ram = a.ram ∧
    (remL cfg c).map (fun x => (ops.length - 1 - x.1, x.2)) = ctrDemands cfg ops (specTicks cfg a.cpu ops) := by
  exact ⟨rfl, rfl, (fun h => by cases h), rfl, rfl, rfl, mkCtr_demands cfg w cid a⟩

/-- **one tick, one demand** (`Container.tick` on a running container): the next documented demand `m` is looked at; above the allocation the
container stops there holding `m` (the pool's OOM check then kills it: C04); otherwise it holds `m` for this tick (0 if it has just finished),
the demand is consumed, the operator index advances and suspension becomes possible exactly at an operator's last demand, and the container is
complete exactly when no demand is left. -/
theorem tick_consumes_one_demand (cfg : Cfg) (w : Store) (c : Ctr) (cons : Int) (w' : Store) (c' : Ctr) (cons' : Int)
    (hf : c.frozen = false) (hc : c.completed = false) (hp : PosOK cfg c) (hseg : ∀ o ∈ c.pos.ops, o.2 ≠ [])
    (h : c.tick cfg w cons = .ok (w', c', cons')) :
    ∃ k m tl, remL cfg c = (k, m) :: tl ∧ c'.ram = c.ram ∧ c'.cpu = c.cpu ∧ (∀ o ∈ c'.pos.ops, o.2 ≠ []) ∧ c'.elapsed = c.elapsed + 1 ∧
      (c.ram < m → c'.frozen = true ∧ c'.mem = m ∧ c'.completed = false ∧ c'.curOpIdx = c.curOpIdx) ∧
      (m ≤ c.ram → c'.frozen = false ∧ remL cfg c' = tl ∧ PosOK cfg c' ∧ (c'.completed = true ↔ tl = []) ∧
        c'.mem = (if tl = [] then 0 else m) ∧
        c'.curOpIdx = (if ∀ x ∈ tl, x.1 ≠ k then c.curOpIdx + 1 else c.curOpIdx) ∧
        (c'.canSuspend = true ↔ ((∀ x ∈ tl, x.1 ≠ k) ∧ tl ≠ []))) :=
  tick_consumes ⟨hf, hc, hp, hseg⟩ h

/-- **the whole run**: while the demands fit, after `n` ticks the container has consumed exactly the first `n` documented demands, holds the
`n`-th one, and is complete exactly when `n` is the total tick count `Σ (I/O ticks + CPU ticks)` — neither earlier nor later. -/
theorem run_follows_the_documented_demands (cfg : Cfg) (n : Nat) (w : Store) (c : Ctr) (cons : Int) (w' : Store) (c' : Ctr) (cons' : Int)
    (hf : c.frozen = false) (hc : c.completed = false) (hp : PosOK cfg c) (hseg : ∀ o ∈ c.pos.ops, o.2 ≠ [])
    (hn : n ≤ (remL cfg c).length) (hfit : ∀ x ∈ (remL cfg c).take n, x.2 ≤ c.ram)
    (h : runN cfg n w c cons = .ok (w', c', cons')) :
    remL cfg c' = (remL cfg c).drop n ∧ c'.elapsed = c.elapsed + n ∧ c'.frozen = false ∧
    (0 < n → (c'.completed = true ↔ n = (remL cfg c).length) ∧
      c'.mem = (if n = (remL cfg c).length then 0 else ((remL cfg c).getD (n - 1) (0, 0)).2)) := by
  have s := run_follows_demands ⟨hf, hc, hp, hseg⟩ hn hfit h
  exact ⟨s.todo, s.elapsed, s.frozen, fun h0 => ⟨s.completed.trans (and_iff_right h0), s.mem h0⟩⟩

/-- **out of memory at the first demand above the allocation, not before**: if the first `n` demands fit and the next one does not, the tick after
the `n`-th leaves the container stopped, holding that demand (> its allocation), with the operators completed so far unchanged. -/
theorem oom_at_first_excess (cfg : Cfg) (n : Nat) (w : Store) (c : Ctr) (cons : Int) (w1 : Store) (c1 : Ctr) (cons1 : Int) (w2 : Store) (c2 : Ctr) (cons2 : Int)
    (hf : c.frozen = false) (hc : c.completed = false) (hp : PosOK cfg c) (hseg : ∀ o ∈ c.pos.ops, o.2 ≠ [])
    (hn : n < (remL cfg c).length) (hfit : ∀ x ∈ (remL cfg c).take n, x.2 ≤ c.ram) (hex : c.ram < ((remL cfg c).getD n (0, 0)).2)
    (h1 : runN cfg n w c cons = .ok (w1, c1, cons1)) (h2 : c1.tick cfg w1 cons1 = .ok (w2, c2, cons2)) :
    c2.frozen = true ∧ c2.mem = ((remL cfg c).getD n (0, 0)).2 ∧ c2.ram < c2.mem ∧ c2.completed = false ∧ c2.curOpIdx = c1.curOpIdx ∧
    c2.elapsed = c.elapsed + n + 1 := by
  have s := run_follows_demands ⟨hf, hc, hp, hseg⟩ (Nat.le_of_lt hn) hfit h1
  obtain ⟨k, m, tl, b1, b2, _, _, b5, b6, _⟩ := tick_consumes (s.running hn) h2
  -- the demand looked at is the `n`-th of the run
  obtain ⟨hx, _⟩ := List.cons.inj (b1.symm.trans (s.todo.trans (List.drop_eq_getElem_cons hn)))
  rw [getD_of_lt _ _ hn, ← hx] at hex ⊢
  obtain ⟨d1, d2, d3, d4⟩ := b6 (by rw [s.ram]; exact hex)
  exact ⟨d1, d2, by rw [b2, d2, s.ram]; exact hex, d3, d4, by rw [b5, s.elapsed]⟩

/-- **the specification's summary is what the container does.**  Let `S = specRun cfg cpu ram ops` be the documented run of the operators of an
assignment (memory held after each tick, the tick in which the result is reported, the verdict) and `c` the container the pool creates for that
assignment.  Then, whenever the ticks themselves succeed (they do on consistent state: C08): strictly before `S.endTick` the container is running,
neither complete nor stopped, and after its `n`-th tick it holds exactly `S.mem[n-1]`; if `S.ok`, the `S.endTick`-th tick completes it (holding
nothing) and no earlier one does; if not, the `S.endTick`-th tick stops it holding more than its allocation — the out-of-memory failure the pool
reports in that tick — and no earlier one does.  So the record the correspondence check compares with the code is a consequence of
`Container.tick`, not a second description that could drift from it. -/
theorem specification_summary_is_what_the_container_does (cfg : Cfg) (w : Store) (cid : Nat) (a : Asg)
    (hseg : ∀ r ∈ a.ops, w.segsOf r ≠ []) :
    let c := mkCtr w cid a
    let S := specRun cfg a.cpu a.ram (a.ops.map (fun r => w.segsOf r))
    S.mem.length = S.endTick - 1 ∧
    (∀ n cons w' c' cons', 1 ≤ n → n < S.endTick → runN cfg n w c cons = .ok (w', c', cons') →
        c'.mem = S.mem.getD (n - 1) 0 ∧ c'.mem ≤ c'.ram ∧ c'.completed = false ∧ c'.frozen = false ∧ c'.elapsed = n) ∧
    (S.ok = true → ∀ cons w' c' cons', runN cfg S.endTick w c cons = .ok (w', c', cons') →
        (1 ≤ S.endTick → c'.completed = true ∧ c'.mem = 0) ∧ c'.frozen = false ∧ c'.elapsed = S.endTick) ∧
    (S.ok = false → ∀ cons w' c' cons', runN cfg S.endTick w c cons = .ok (w', c', cons') →
        c'.frozen = true ∧ c'.ram < c'.mem ∧ c'.completed = false ∧ c'.elapsed = S.endTick) := by
  intro c S
  obtain ⟨k, hk, hfit, hex, hmem, hcase⟩ := specRun_of_demands cfg a.cpu a.ram _ (remL cfg c) (mkCtr_demands cfg w cid a)
  rw [show specRun cfg a.cpu a.ram (a.ops.map fun r => w.segsOf r) = S from rfl] at hmem hcase
  have hr : Running cfg c := mkCtr_running cfg cid hseg
  have hE : S.endTick ≤ k + 1 ∧ S.endTick ≤ (remL cfg c).length := by
    rcases hcase with ⟨_, _, e, _⟩ | ⟨_, _, e, _⟩ <;> omega
  refine ⟨?_, ?_, ?_, ?_⟩
  · rw [hmem, List.length_map, List.length_take]
    omega
  · intro n cons w' c' cons' h1 hlt h
    have hnk : n ≤ k ∧ n < (remL cfg c).length := by omega
    have s := run_follows_demands hr (Nat.le_of_lt hnk.2) (fun x hx => hfit x (List.take_subset_take_left _ hnk.1 hx)) h
    have hmemn : c'.mem = ((remL cfg c).getD (n - 1) (0, 0)).2 := by rw [s.mem h1, if_neg (Nat.ne_of_lt hnk.2)]
    refine ⟨?_, ?_, (s.running hnk.2).completed, s.frozen, by rw [s.elapsed]; exact Nat.zero_add n⟩
    · rw [hmemn, hmem, getD_of_lt _ _ (by omega), getD_of_lt _ _ (by rw [List.length_map, List.length_take]; omega),
        List.getElem_map, List.getElem_take]
    · rw [hmemn, s.ram, getD_of_lt _ _ (by omega)]
      exact hfit _ (List.mem_take_iff_getElem.mpr ⟨n - 1, by omega, rfl⟩)
  · intro hok cons w' c' cons' h
    rcases hcase with ⟨e0, _, e, _⟩ | ⟨_, e1, _⟩
    · rw [e] at h ⊢
      have s := run_follows_demands hr (Nat.le_refl _) (fun x hx => hfit x (e0 ▸ hx)) h
      exact ⟨fun h1 => ⟨s.completed.mpr ⟨h1, rfl⟩, by rw [s.mem h1, if_pos rfl]⟩, s.frozen, by rw [s.elapsed]; exact Nat.zero_add _⟩
    · rw [e1] at hok; cases hok
  · intro hok cons w' c' cons' h
    rcases hcase with ⟨_, e1, _⟩ | ⟨hlt, _, e, _⟩
    · rw [e1] at hok; cases hok
    · rw [e] at h ⊢
      obtain ⟨w1, c1, cons1, h1, h2⟩ := runN_succ_ok.mp h
      obtain ⟨d1, _, d3, d4, _, d6⟩ := oom_at_first_excess cfg k w c cons w1 c1 cons1 w' c' cons' rfl rfl hr.pos hr.segs hlt hfit (hex hlt) h1 h2
      exact ⟨d1, d3, d4, by rw [d6]; exact congrArg (· + 1) (Nat.zero_add k)⟩

/-- **the operators the specification counts as completed are the ones the container has completed when it ends.**  Along the run the container's
operator index (`_current_op_idx`, the number of its operators that are done — what the pool reads to decide which operators a failure or a
suspension leaves unfinished) is always the operator of the next documented demand (`run_keeps_idxOK`); so when the run ends — after `S.endTick`
ticks, by success or by the out-of-memory stop — it equals `S.completedOps`: all operators after a success, otherwise the index of the operator whose
demand did not fit. -/
theorem specification_completed_operators_is_the_containers_operator_index (cfg : Cfg) (w : Store) (cid : Nat) (a : Asg)
    (hseg : ∀ r ∈ a.ops, w.segsOf r ≠ []) :
    let c := mkCtr w cid a
    let S := specRun cfg a.cpu a.ram (a.ops.map (fun r => w.segsOf r))
    ∀ cons w' c' cons', runN cfg S.endTick w c cons = .ok (w', c', cons') →
      c'.curOpIdx = S.completedOps ∧ (S.ok = true → S.completedOps = a.ops.length) ∧ (S.ok = false → S.completedOps < a.ops.length) := by
  intro c S cons w' c' cons' h
  simp only [S] at h ⊢
  obtain ⟨k, hk, hfit, hex, _, hcase⟩ := specRun_of_demands cfg a.cpu a.ram _ (remL cfg c) (mkCtr_demands cfg w cid a)
  have hr : Running cfg c := mkCtr_running cfg cid hseg
  have hi0 : IdxOK cfg a.ops.length c := idxOK_new cfg w cid a hseg
  rw [List.length_map] at hcase
  rcases hcase with ⟨e0, eok, e, eco⟩ | ⟨hlt, eok, e, eco⟩
  · rw [e] at h
    have s := run_follows_demands hr (Nat.le_refl _) (fun x hx => hfit x (e0 ▸ hx)) h
    refine ⟨?_, fun _ => eco, fun hno => by rw [eok] at hno; cases hno⟩
    rw [eco]
    exact (s.idx _ hi0).done (by rw [s.todo, List.drop_length])
  · rw [e] at h
    obtain ⟨w1, c1, cons1, h1, h2⟩ := runN_succ_ok.mp h
    have hnext := (run_follows_demands hr (Nat.le_of_lt hlt) hfit h1).next hi0 hlt
    obtain ⟨_, _, _, _, d5, _⟩ := oom_at_first_excess cfg k w c cons w1 c1 cons1 w' c' cons' rfl rfl hr.pos hr.segs hlt hfit (hex hlt) h1 h2
    refine ⟨by rw [d5, eco]; omega, fun hyes => ?_, fun _ => by rw [eco]; omega⟩
    rw [eok] at hyes; cases hyes

/-- **after every tick the operator index is the operator of the next documented demand**: for every `n` below the number of demands whose first `n`
fit, after `n` ticks of the container the pool creates, `_current_op_idx` is the operator (counted from the front, as the specification labels them) that
the `(n+1)`-th entry of `ctrDemands` belongs to — operators are completed one after the other, each exactly when its last demand has been consumed. -/
theorem operator_index_is_the_operator_of_the_next_demand (cfg : Cfg) (w : Store) (cid : Nat) (a : Asg)
    (hseg : ∀ r ∈ a.ops, w.segsOf r ≠ []) :
    let c := mkCtr w cid a
    let ops := a.ops.map (fun r => w.segsOf r)
    let d := ctrDemands cfg ops (specTicks cfg a.cpu ops)
    ∀ n cons w' c' cons', n < d.length → (∀ x ∈ d.take n, x.2 ≤ a.ram) → runN cfg n w c cons = .ok (w', c', cons') →
      c'.curOpIdx = (d.getD n (0, 0)).1 ∧ c'.curOpIdx < a.ops.length := by
  intro c ops d n cons w' c' cons' hn hfitd h
  have hD : (remL cfg c).map (fun x => (ops.length - 1 - x.1, x.2)) = d := mkCtr_demands cfg w cid a
  rw [← hD, List.length_map] at hn
  have hr : Running cfg c := mkCtr_running cfg cid hseg
  have s := run_follows_demands hr (Nat.le_of_lt hn)
    (fun x hx => hfitd (ops.length - 1 - x.1, x.2) (by rw [← hD, ← List.map_take]; exact List.mem_map_of_mem hx)) h
  have hnext := s.next (idxOK_new cfg w cid a hseg) hn
  rw [← hD, relabel_getD_fst _ _ _ hn, List.length_map]
  omega

/-- the specification on a small example: two operators (3 I/O ticks growing by g, then 2 CPU ticks at the amount read; then fixed memory),
    success after the summed tick count -/
example :
    let cfg : Cfg := { tps := 1, q := 64, g := 1280 }
    let ops : List (List Seg) := [[{ baseNum := 2, read := 3840 }], [{ baseNum := 1, fixed := some 64, read := 0 }]]
    (specRun cfg 1 4000 ops).mem = [1280, 2560, 3840, 3840, 3840] ∧ (specRun cfg 1 4000 ops).endTick = 6 ∧ (specRun cfg 1 4000 ops).ok = true ∧
    (specRun cfg 1 3000 ops).ok = false ∧ (specRun cfg 1 3000 ops).endTick = 3 ∧ (specRun cfg 1 3000 ops).completedOps = 0 := by
  decide

end Eudoxia.C05
